import IastModel.Lemmas.CovScope
/-
  C04 — every enabled operation in blocks is instrumented.  Local coverage lemmas: the `+` transform
  never declines a sum that has an operand which is neither a literal sum nor a `+` chain, and the
  template transform never declines; together with the traversal (children first, every expression
  position of a block) this is what makes the oracle "every instrumentable occurrence of the input has
  its hook in the output" hold.  After them the whole-pipeline statements:
  `every_block_statement_is_instrumented_partial`, and for arrow bodies `every_reached_arrow_body_is_instrumented_partial`
  and `every_arrow_chain_is_instrumented_partial`.
-/
namespace IastModel.C04

theorem replaceDefault_pushes_nonliteral (e : Node) (asg args : List Node) (sp : Span) (kind : IdentKind) (s : St)
    (h : isLiteralSum e = false) :
    mustReplaceBinary (replaceDefault e asg args sp kind s).1.2.2 = true :=
  replaceDefault_mustReplace e asg args sp kind s h

theorem mustReplace_mono (args extra : List Node) (h : mustReplaceBinary args = true) :
    mustReplaceBinary (args ++ extra) = true :=
  mustReplace_mono' args extra h

/-- the template transform always instruments (the visitor calls it only for templates whose
    substitutions are all non-literal) -/
theorem tpl_never_declines (cfg : Config) (exprs quasis : List Node) (sp : Span) (s : St) :
    ((toDdTpl cfg (.tpl exprs quasis sp)) s).1.isSome = true := by
  simp [toDdTpl, run_bind, run_pure]

/-- the specification side: a sum of literals only is never an occurrence to cover, anything else is
    (when `+` is enabled) -/
theorem plus_occurrence_iff (cfg : Config) (l r : Node) (sp : Span) (h : cfg.plusEnabled = true) :
    (ownOcc cfg (.bin "+" l r sp)).isSome = !(litSum l && litSum r) := by
  show (if (cfg.plusEnabled && !(litSum l && litSum r)) = true then some (Occ.mk cfg.plusName sp "+") else none).isSome = _
  rw [h, Bool.true_and]
  cases (litSum l && litSum r) <;> rfl

/-! ### coverage of `+`, `+=`, template literals and plain method calls through the visitors

`R cfg d sp0 n` counts the `+` / `+=` / template / `recv.m(..)` occurrences that the specification (`ownOcc`, written from the
property text) requires for the hook site `(d, sp0)` in the positions of `n` that the operation visitor
reaches — everything but the operands of `delete`, the substitutions of a template that has a literal
one, nested blocks and arrow functions (those belong to the block visitor) and the inside of an optional
chain that is lowered (`noOpt`: one that reaches a configured method; every other optional chain, `a?.b(x + y)`,
is walked through like any expression).  `cq (qAt d sp0) t` counts the hook calls of `t` named `d` with span `sp0`. -/

/-- the specification's `+` occurrence is what `R` counts for a `+` node -/
theorem required_plus_is_counted (cfg : Config) (op : String) (l r : Node) (sp : Span) (o : Occ)
    (h : ownOcc cfg (.bin op l r sp) = some o) : reqOwn cfg o.dst o.sp (.bin op l r sp) = 1 :=
  reqOwn_spec_bin cfg op l r sp o h

/-- the specification's `+=` occurrence is what `R` counts for a compound assignment -/
theorem required_plus_assign_is_counted (cfg : Config) (op : String) (l r : Node) (sp : Span) (o : Occ)
    (h : ownOcc cfg (.assign op l r sp) = some o) : reqOwn cfg o.dst o.sp (.assign op l r sp) = 1 :=
  reqOwn_spec_assign cfg op l r sp o h

/-- the specification's `recv.m(..)` occurrence (receiver: identifier, call result, parenthesised
    expression, array literal, member access other than `.prototype`, or an allowed literal; `m` not
    `call`/`apply` — those are the `X.prototype.m.call(..)` forms, left to the oracle) is what `R` counts -/
theorem required_method_call_is_counted (cfg : Config) (recv : Node) (m : String) (msp cmsp : Span) (cargs : List Node)
    (sp : Span) (csi : CsiMethod) (hg : cfg.get m = some csi) (hca : isCallOrApply m = false) (hr : recvOK cfg m recv = true) :
    ownOcc cfg (.call (.member recv (.pname m msp) cmsp) cargs sp) = some ⟨csi.dst, sp, "call"⟩ ∧
    reqOwn cfg csi.dst sp (.call (.member recv (.pname m msp) cmsp) cargs sp) = 1 :=
  reqOwn_spec_call cfg recv m msp cmsp cargs sp csi hg hca hr

/-- the specification's template occurrence is what `R` counts for a template node -/
theorem required_template_is_counted (cfg : Config) (exprs qs : List Node) (sp : Span) (o : Occ)
    (h : ownOcc cfg (.tpl exprs qs sp) = some o) : reqOwn cfg o.dst o.sp (.tpl exprs qs sp) = 1 :=
  reqOwn_spec_tpl cfg exprs qs sp o h

/-- the operation visitor instruments every required `+` / `+=` / template / `recv.m(..)` occurrence it reaches, unless it runs
    out of fuel (`fuelOut`, reported by the driver for every input) -/
theorem visit_instruments_required_operations (cfg : Config) (d : String) (sp0 : Span)
    (f : Nat) (root : Bool) (n : Node) (s : St) (h0 : ns n = 0) (ht : targetsOk n = true)
    (hs : s.status ≠ .cancelled) (hfo : (visit cfg f root n s).2.fuelOut = false) :
    R cfg d sp0 n ≤ cq (qAt d sp0) (visit cfg f root n s).1 :=
  (visit_cover cfg (okCfg cfg) (cfgOk_dsts cfg) d sp0 f root n s h0 ht hs hfo).1

/-- **C04 for `+`, `+=`, template literals and `recv.m(..)`, per block** (PARTIAL with respect to the property:
    `X.prototype.m.call|apply(..)`, `recv?.m(..)` and occurrences inside optional chains that are lowered are decided by the coverage oracle, and "every block of
    the file is entered" is not part of the statement).  Every block statement the block visitor enters —
    at any depth, in any state that is not cancelled, the block not mentioning the hook namespace and
    with parser-shaped `+=` targets — comes back, unless the run is cancelled or out of fuel, with at
    least one hook call of the expected name and span for every required occurrence in its statements. -/
theorem entered_block_instruments_required_operations_partial (cfg : Config) (d : String) (sp0 : Span)
    (opFuel f : Nat) (ss : List Node) (sp : Span) (s : St) (hs : s.status ≠ .cancelled)
    (h0 : nsL ss = 0) (hb : badL ss = 0)
    (hfin : (blockVisit cfg opFuel (f + 1) (.block ss sp) s).2.status ≠ .cancelled)
    (hfo : (blockVisit cfg opFuel (f + 1) (.block ss sp) s).2.fuelOut = false) :
    RL cfg d sp0 ss ≤ cq (qAt d sp0) (blockVisit cfg opFuel (f + 1) (.block ss sp) s).1 :=
  block_cover (okCfg cfg) cfg (cfgOk_dsts cfg) d sp0 opFuel f ss sp s hs
    (by rw [good_block]; simp [h0, hb]) hfin hfo

theorem cq_insertPrologue_le (q : Node → Bool) (pro : List Node) (p : Node) : cq q p ≤ cq q (insertPrologue pro p) := by
  unfold insertPrologue
  split
  · rename_i k sp ns body vs
    have : cqL q (body.take (variableInsertionIndex body)) + cqL q (body.drop (variableInsertionIndex body)) = cqL q body := by
      conv => rhs; rw [← List.take_append_drop (variableInsertionIndex body) body]
      rw [cqL_append]
    simp only [cq_other, cqL_cons, cq_arr, insertAt, cqL_append]
    omega
  · exact Nat.le_refl _

/-- from the traversal to the file: what the block visitor guarantees for every node that contains the block
    `B` holds of the output of `transformProgram`, unless the rewrite is refused or out of fuel -/
private theorem program_reach (cfg : Config) (fuel : Nat) (p : Node)
    (h0 : ns p = 0) (ht : targetsOk p = true) (hnb : isBlockNode p = false)
    (hnc : (transformProgram cfg fuel p).status ≠ .cancelled)
    (hfo : (transformProgram cfg fuel p).fuelOut = false)
    (B : Node) (hB : 1 ≤ cb B p) (d : String) (sp0 : Span) (c : Nat)
    (key : ∀ (f : Nat) (n : Node) (s : St), StOk s → goodW (okCfg cfg) true n = true → StOk (blockVisit cfg fuel f n s).2 →
      (blockVisit cfg fuel f n s).2.fuelOut = false → 1 ≤ cb B n → c ≤ cq (qAt d sp0) (blockVisit cfg fuel f n s).1) :
    c ≤ cq (qAt d sp0) (transformProgram cfg fuel p).out := by
  obtain ⟨hnc, _, _, hout, hf⟩ := transformProgram_run cfg fuel p hnc
  rw [hf] at hfo
  have hg : goodW (okCfg cfg) true p = true := good_of_ns0 (okCfg cfg) true p h0 ((bad_zero_iff p).mpr ht)
  have key := key (fuel + 1) p {} (by intro h; cases h) hg
  rw [blockVisit_generic cfg fuel fuel p hnb] at key
  have := key hnc hfo hB
  rw [hout]
  split
  · exact Nat.le_trans this (cq_insertPrologue_le _ _ _)
  · exact this

/-- a block statement occurs in itself, and in every tree that has it as a child (so `1 ≤ cb B p` is what
    "`B` is a block statement of `p`" says; the two lemmas build it up along any path) -/
theorem block_occurs_in_itself (ss : List Node) (sp : Span) : 1 ≤ cb (.block ss sp) (.block ss sp) := by
  rw [cb_block, beq_self]; simp

theorem block_occurs_in_parent (B : Node) (n k : Node) (hk : k ∈ n.kids) (h : 1 ≤ cb B k) : 1 ≤ cb B n :=
  Nat.le_trans h (Nat.le_trans (le_sum_map_of_mem (cb B) hk) (cbL_kids_le B n))

/-- **C04 for `+`, `+=`, template literals and `recv.m(..)`, for every block statement of the file**
    (PARTIAL with respect to the property: `X.prototype.m.call|apply(..)`, `recv?.m(..)` and occurrences
    inside optional chains that are lowered are decided by the coverage oracle; the bodies of arrow functions
    written without braces — `x => x + y` becomes a block only during the rewrite — have their own theorem
    below).  For every
    configuration, fuel and program that does not mention the hook namespace and has parser-shaped `+=`
    targets: unless the rewrite is refused or the model runs out of fuel, **every** block statement `B` of
    the program — function bodies, bare blocks, loop / `if` / `try` bodies, class method bodies, closures
    nested at any depth inside other blocks, expressions or declarations — is entered, and the output has
    at least one hook call of the expected name and span for every operation required in its statements
    (`required_plus_is_counted` … `required_template_is_counted`). -/
theorem every_block_statement_is_instrumented_partial (cfg : Config) (fuel : Nat) (p : Node)
    (h0 : ns p = 0) (ht : targetsOk p = true) (hnb : isBlockNode p = false)
    (hnc : (transformProgram cfg fuel p).status ≠ .cancelled)
    (hfo : (transformProgram cfg fuel p).fuelOut = false)
    (B : Node) (hB : 1 ≤ cb B p) (d : String) (sp0 : Span) :
    RL cfg d sp0 (stmtsOf B) ≤ cq (qAt d sp0) (transformProgram cfg fuel p).out :=
  program_reach cfg fuel p h0 ht hnb hnc hfo B hB d sp0 _ (blockVisit_reach (okCfg cfg) cfg (cfgOk_dsts cfg) d sp0 B fuel)

/-- an optional chain that is not lowered is walked through: what is required in `a?.b(x + y)` includes what
    is required in its arguments -/
theorem required_inside_unlowered_chain (cfg : Config) (d : String) (sp0 : Span) (o : Bool) (b : Node) (sp : Span)
    (h : noOpt cfg (.optChain o b sp) = true) : R cfg d sp0 (.optChain o b sp) = R cfg d sp0 b := by
  rw [R_eq]; simp [reqOwn, visitedKids, h]

/-- how `1 ≤ va cfg A n` ("the arrow function `A` sits at a position of `n` the operation visitor reaches")
    is built: an expression-bodied arrow function is reached in itself, and in every node that has it under
    a visited child (`visitedKids`: not the operand of `delete`, not a template with a literal substitution,
    not an optional chain that is lowered, not a nested block, not another arrow function) -/
theorem arrow_reached_in_itself (cfg : Config) (ps : List Node) (e : Node) (at' : String) (sp : Span)
    (he : isBlockNode e = false) : 1 ≤ va cfg (.arrow ps e at' sp) (.arrow ps e at' sp) := by
  rw [va_eq, beq_self]; simp [isExprArrow, he]

theorem arrow_reached_in_parent (cfg : Config) (A n k : Node) (hk : k ∈ visitedKids cfg n) (h : 1 ≤ va cfg A k) :
    1 ≤ va cfg A n := by
  rw [va_eq]
  exact Nat.le_trans h (Nat.le_trans (le_sum_map_of_mem (va cfg A) hk) (Nat.le_add_left _ _))

theorem arrow_reached_in_statements (cfg : Config) (A k : Node) (ss : List Node) (hk : k ∈ ss) (h : 1 ≤ va cfg A k) :
    1 ≤ vaL cfg A ss :=
  Nat.le_trans h (le_sum_map_of_mem (va cfg A) hk)

/-- what is required in `{ return e }` is what is required in `e` -/
theorem required_in_wrapped_body (cfg : Config) (d : String) (sp0 : Span) (ps : List Node) (e : Node) (at' : String) (sp : Span) :
    RL cfg d sp0 (stmtsOf (pseudo (.arrow ps e at' sp))) = R cfg d sp0 e := by
  simp only [pseudo, stmtsOf, returnStmt, RL_cons, RL_nil, Nat.add_zero]
  rw [R_eq]
  simp [reqOwn, visitedKids, Node.kids]

/-- **C04 for the bodies of arrow functions written without braces** (`x => x + y`, `v => v.trim()`), PARTIAL in
    the same way as `every_block_statement_is_instrumented_partial`.  For every block statement `B1` of the
    program and every expression-bodied arrow function `A = (ps) => e` at a position of one of `B1`'s
    statements that the operation visitor reaches (so: not in the operand of `delete`, not inside a template
    literal that has a literal substitution, not inside an optional chain that is lowered or another arrow function — the
    documented exclusions, and the ones this theorem leaves to the oracle), unless the rewrite is refused
    or the model runs out of fuel: the body is wrapped into a block, that block is entered, and the output
    has a hook call of the expected name and span for every operation required in `e`. -/
theorem every_reached_arrow_body_is_instrumented_partial (cfg : Config) (fuel : Nat) (p : Node)
    (h0 : ns p = 0) (ht : targetsOk p = true) (hnb : isBlockNode p = false)
    (hnc : (transformProgram cfg fuel p).status ≠ .cancelled)
    (hfo : (transformProgram cfg fuel p).fuelOut = false)
    (B1 : Node) (hB : 1 ≤ cb B1 p) (ps : List Node) (e : Node) (at' : String) (asp : Span)
    (hA : 1 ≤ vaL cfg (.arrow ps e at' asp) (stmtsOf B1)) (d : String) (sp0 : Span) :
    R cfg d sp0 e ≤ cq (qAt d sp0) (transformProgram cfg fuel p).out :=
  required_in_wrapped_body cfg d sp0 ps e at' asp ▸ program_reach cfg fuel p h0 ht hnb hnc hfo B1 hB d sp0 _
    (blockVisit_reach_arrow (okCfg cfg) cfg (cfgOk_dsts cfg) d sp0 B1 (.arrow ps e at' asp) fuel hA)

/-- **chains of arrow functions written without braces** (`xs.map(x => x.ys.map(y => y + z))`): `EnteredVia cfg d sp0
    B c` says that standing on the block `B` guarantees `c` hook calls of the site — what `B`'s own statements
    require (`EnteredVia.self`), or what is guaranteed by the wrapped body of an arrow function reached from
    `B`'s statements (`EnteredVia.arrow`, any number of times).  For every block statement `B` of the
    program, at any depth, that guarantee is met by the output.  The two theorems above are the chains of
    length zero and one. -/
theorem every_arrow_chain_is_instrumented_partial (cfg : Config) (fuel : Nat) (p : Node)
    (h0 : ns p = 0) (ht : targetsOk p = true) (hnb : isBlockNode p = false)
    (hnc : (transformProgram cfg fuel p).status ≠ .cancelled)
    (hfo : (transformProgram cfg fuel p).fuelOut = false)
    (B : Node) (hB : 1 ≤ cb B p) (d : String) (sp0 : Span) (c : Nat) (hv : EnteredVia cfg d sp0 B c) :
    c ≤ cq (qAt d sp0) (transformProgram cfg fuel p).out :=
  program_reach cfg fuel p h0 ht hnb hnc hfo B hB d sp0 c (blockVisit_reach_via (okCfg cfg) cfg (cfgOk_dsts cfg) d sp0 B fuel c hv)

/-! ### the same conclusions in the vocabulary of the coverage oracle

`uncovered` (the oracle that runs on the implementation's real output) reports an occurrence when
`(name, span)` is not among `hookSites out`; the two corollaries below say that for the occurrences the
theorems count this never happens on the model's output. -/

theorem required_operation_of_a_block_has_its_hook_site_partial (cfg : Config) (fuel : Nat) (p : Node)
    (h0 : ns p = 0) (ht : targetsOk p = true) (hnb : isBlockNode p = false)
    (hnc : (transformProgram cfg fuel p).status ≠ .cancelled)
    (hfo : (transformProgram cfg fuel p).fuelOut = false)
    (B : Node) (hB : 1 ≤ cb B p) (d : String) (sp0 : Span) (hreq : 1 ≤ RL cfg d sp0 (stmtsOf B)) :
    (d, sp0) ∈ hookSites (transformProgram cfg fuel p).out :=
  hookSite_of_cq d sp0 _ (Nat.le_trans hreq
    (every_block_statement_is_instrumented_partial cfg fuel p h0 ht hnb hnc hfo B hB d sp0))

theorem required_operation_of_an_arrow_body_has_its_hook_site_partial (cfg : Config) (fuel : Nat) (p : Node)
    (h0 : ns p = 0) (ht : targetsOk p = true) (hnb : isBlockNode p = false)
    (hnc : (transformProgram cfg fuel p).status ≠ .cancelled)
    (hfo : (transformProgram cfg fuel p).fuelOut = false)
    (B1 : Node) (hB : 1 ≤ cb B1 p) (ps : List Node) (e : Node) (at' : String) (asp : Span)
    (hA : 1 ≤ vaL cfg (.arrow ps e at' asp) (stmtsOf B1)) (d : String) (sp0 : Span) (hreq : 1 ≤ R cfg d sp0 e) :
    (d, sp0) ∈ hookSites (transformProgram cfg fuel p).out :=
  hookSite_of_cq d sp0 _ (Nat.le_trans hreq
    (every_reached_arrow_body_is_instrumented_partial cfg fuel p h0 ht hnb hnc hfo B1 hB ps e at' asp hA d sp0))

/-- **the scope of the theorems, decided**: `inScope cfg p d sp0` searches the block statements of the
    program, and the chains of arrow functions reached from their statements, for one that requires the site
    `(d, sp0)`.  Whenever it answers `true` the hook site is in the output.  The driver evaluates `inScope`
    on every occurrence the coverage oracle demands of every input and reports both numbers, so each run
    says how much of the oracle's demand a theorem covers as well. -/
theorem in_scope_occurrence_has_its_hook_site_partial (cfg : Config) (fuel : Nat) (p : Node)
    (h0 : ns p = 0) (ht : targetsOk p = true) (hnb : isBlockNode p = false)
    (hnc : (transformProgram cfg fuel p).status ≠ .cancelled)
    (hfo : (transformProgram cfg fuel p).fuelOut = false)
    (d : String) (sp0 : Span) (hin : inScope cfg p d sp0 = true) :
    (d, sp0) ∈ hookSites (transformProgram cfg fuel p).out := by
  simp only [inScope, List.any_eq_true] at hin
  obtain ⟨B, hB, h⟩ := hin
  obtain ⟨c, hc, hv⟩ := viaScope_sound cfg d sp0 _ B h
  exact hookSite_of_cq d sp0 _ (Nat.le_trans hc
    (every_arrow_chain_is_instrumented_partial cfg fuel p h0 ht hnb hnc hfo B (cb_of_mem_blocksOf p B hB) d sp0 c hv))

/-! non-vacuity: a function declaration whose body calls `g(function () { c + d })` — the inner function
    body is a block statement of the program, two blocks and one call argument deep -/
section Example
open Node
private def sp1 : Span := ⟨1, 2⟩
private def inner : Node := .block [.exprStmt (.bin "+" (.ident (.user "c") sp1) (.ident (.user "d") sp1) sp1) sp1] sp1
private def fe : Node := .other "FunctionExpression" sp1 ["body"] [inner]
private def outer : Node := .block [.other "ReturnStatement" sp1 ["argument"] [.call (.ident (.user "g") sp1) [.arg none fe] sp1]] sp1
private def prog : Node := .other "Script" sp1 ["body"] [.arr [.other "FunctionDeclaration" sp1 ["body"] [outer]]]
example : ns prog = 0 := by
  simp [prog, outer, inner, fe, ns_eq, mentionsNs, kids]
  decide
example : targetsOk prog = true := by
  apply (bad_zero_iff _).mp
  simp [prog, outer, inner, fe, bad_eq, assignTargetOk, kids]
example : isBlockNode prog = false := rfl
example : 1 ≤ cb inner prog := by
  apply block_occurs_in_parent _ _ (.arr [.other "FunctionDeclaration" sp1 ["body"] [outer]]) (by simp [prog, kids])
  apply block_occurs_in_parent _ _ (.other "FunctionDeclaration" sp1 ["body"] [outer]) (by simp [kids])
  apply block_occurs_in_parent _ _ outer (by simp [kids])
  apply block_occurs_in_parent _ _ (.other "ReturnStatement" sp1 ["argument"] [.call (.ident (.user "g") sp1) [.arg none fe] sp1]) (by simp [outer, kids])
  apply block_occurs_in_parent _ _ (.call (.ident (.user "g") sp1) [.arg none fe] sp1) (by simp [kids])
  apply block_occurs_in_parent _ _ (.arg none fe) (by simp [kids])
  apply block_occurs_in_parent _ _ fe (by simp [kids])
  apply block_occurs_in_parent _ _ inner (by simp [fe, kids])
  exact block_occurs_in_itself _ _
/-- `function(){ return g(x => x + y) }`: the arrow is reached in the function body's `return` statement -/
private def arrowA : Node := .arrow [.ident (.user "x") sp1] (.bin "+" (.ident (.user "x") sp1) (.ident (.user "y") sp1) sp1) "" sp1
private def retA : Node := .other "ReturnStatement" sp1 ["argument"] [.call (.ident (.user "g") sp1) [.arg none arrowA] sp1]
example (cfg : Config) : 1 ≤ vaL cfg arrowA (stmtsOf (.block [retA] sp1)) := by
  apply arrow_reached_in_statements cfg _ retA _ (by simp [stmtsOf])
  apply arrow_reached_in_parent cfg _ _ (.call (.ident (.user "g") sp1) [.arg none arrowA] sp1) (by simp [retA, visitedKids, kids])
  apply arrow_reached_in_parent cfg _ _ (.arg none arrowA) (by simp [visitedKids, kids])
  apply arrow_reached_in_parent cfg _ _ arrowA (by simp [visitedKids, kids])
  exact arrow_reached_in_itself cfg _ _ _ _ rfl
end Example

end IastModel.C04
