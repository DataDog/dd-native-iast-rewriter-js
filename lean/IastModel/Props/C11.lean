import IastModel.Lemmas.FindEntryGlb
/-
  C11 — stack traces report original file and line.  Model of the module-level cache of
  js/source-map/index.js (`rewrittenSourceMapsCache`, a JavaScript `Map`), of `getPathAndLine` and of the
  1-based/0-based conversions, over the verified lookup of `Spec/Codec.lean`.
-/
namespace IastModel.C11
open Codec

/-- `rewrittenSourceMapsCache`: file name ↦ parsed map of the content cached last -/
abbrev Cache := List (String × List Token)

def Cache.set (c : Cache) (file : String) (m : List Token) : Cache := (file, m) :: c.filter (·.1 != file)
def Cache.get (c : Cache) (file : String) : Option (List Token) := (c.find? (·.1 == file)).map (·.2)

/-- one `cacheRewrittenSourceMap(file, content)` per element -/
def Cache.run (c : Cache) : List (String × List Token) → Cache
  | [] => c
  | (f, m) :: ops => (c.set f m).run ops

theorem get_set_same (c : Cache) (f : String) (m : List Token) : (c.set f m).get f = some m := by
  simp [Cache.set, Cache.get]

theorem find_filter_other (es : Cache) (f g : String) (h : g ≠ f) :
    (es.filter (·.1 != f)).find? (·.1 == g) = es.find? (·.1 == g) := by
  induction es with
  | nil => rfl
  | cons e es ih =>
    by_cases he : e.1 = f
    · have hne : (e.1 != f) = false := by simp [he]
      have hg : (e.1 == g) = false := by simp [he, Ne.symm h]
      rw [List.filter_cons, hne]
      simp only [Bool.false_eq_true, if_false, List.find?_cons, hg, ih]
    · have hne : (e.1 != f) = true := by simp [he]
      rw [List.filter_cons, hne]
      simp only [if_true, List.find?_cons, ih]

theorem get_set_other (c : Cache) (f g : String) (m : List Token) (h : g ≠ f) :
    (c.set f m).get g = c.get g := by
  have h1 : (f == g) = false := by simp [Ne.symm h]
  simp only [Cache.set, Cache.get, List.find?_cons, h1]
  rw [find_filter_other c f g h]

theorem run_preserves (f : String) (m : List Token) (rest : List (String × List Token))
    (hrest : ∀ op ∈ rest, op.1 ≠ f) : ∀ c : Cache, c.get f = some m → (c.run rest).get f = some m := by
  induction rest with
  | nil => intro c h; simpa [Cache.run] using h
  | cons op rest ih =>
    obtain ⟨g, mg⟩ := op
    intro c h
    simp only [Cache.run]
    apply ih (fun o ho => hrest o (by simp [ho]))
    rw [get_set_other _ _ _ _ (Ne.symm (hrest (g, mg) (by simp)))]
    exact h

/-- C11 (histories): after any sequence of caching operations, the map used for a file is the one of
    the most recent operation on that file -/
theorem last_write_wins (c : Cache) (ops : List (String × List Token)) (f : String) (m : List Token)
    (rest : List (String × List Token)) (hrest : ∀ op ∈ rest, op.1 ≠ f) :
    (c.run (ops ++ (f, m) :: rest)).get f = some m := by
  induction ops generalizing c with
  | nil =>
    simp only [List.nil_append, Cache.run]
    exact run_preserves f m rest hrest _ (get_set_same c f m)
  | cons op ops ih =>
    obtain ⟨g, mg⟩ := op
    simp only [List.cons_append, Cache.run]
    exact ih _

/-- `getPathAndLine`: the position reported for (line, column), both 1-based in and out -/
def getPathAndLine (m : Option (List Token)) (line col : Nat) : Option (Nat × Nat × Nat) :=
  match m with
  | none => none
  | some toks =>
    match lookup toks (line - 1) (col - 1) with
    | some { src := some (si, l, c), .. } => some (si, l + 1, c + 1)
    | _ => none

/-- a file the cache knows nothing about is left alone -/
theorem unknown_file_unchanged (line col : Nat) : getPathAndLine none line col = none := rfl

/-- the translation is the verified lookup with the 1-based/0-based shifts -/
theorem known_file_translates (toks : List Token) (line col : Nat) (t : Token) (si l c : Nat)
    (h : lookup toks (line - 1) (col - 1) = some t) (hs : t.src = some (si, l, c)) :
    getPathAndLine (some toks) line col = some (si, l + 1, c + 1) := by
  cases t with
  | mk gl gc src name =>
    simp only at hs
    subst hs
    simp [getPathAndLine, h]


/-- **C11 (lookup).**  On mappings sorted by generated position (what `_parseMappingPayload` leaves),
    the binary search of `findEntry` returns the last mapping at or before the requested position —
    the greatest lower bound — and `{}` exactly when every mapping lies after it; for every list of
    mappings and every position. -/
theorem findEntry_is_greatest_lower_bound (ms : List FindEntry.Pos) (pos : FindEntry.Pos) (hs : FindEntry.Sorted ms) :
    match FindEntry.findEntryIdx ms pos with
    | some i => i < ms.length ∧ FindEntry.posLt pos (ms.getD i (0, 0)) = false ∧
        ∀ j, i < j → j < ms.length → FindEntry.posLt pos (ms.getD j (0, 0)) = true
    | none => ∀ j, j < ms.length → FindEntry.posLt pos (ms.getD j (0, 0)) = true :=
  FindEntry.findEntry_glb ms pos hs

/-- the same, against the specification `Codec.lookup` used by the C09 / C10 oracles and by the C11
    correspondence as the meaning of "this position resolves to" -/
theorem findEntry_is_lookup (toks : List Codec.Token) (line col : Nat)
    (hs : FindEntry.Sorted (toks.map fun t => (t.genLine, t.genCol))) :
    Codec.lookup toks line col =
      (FindEntry.findEntryIdx (toks.map fun t => (t.genLine, t.genCol)) (line, col)).bind (fun i => toks[i]?) :=
  FindEntry.findEntry_eq_lookup toks line col hs

end IastModel.C11
