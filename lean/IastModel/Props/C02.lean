import IastModel.Props.C07
import IastModel.Lemmas.EffBlock
import IastModel.Lemmas.ErBlock
/-
  C02 — rewriting only adds instrumentation: erasing it gives back the input program.
  Proved here: the erasure of a hook call is the erasure of its first argument (whatever the operand
  tail is); removing the file prologue undoes its insertion exactly, for every body, every directive
  prologue and every configuration; no effect node is duplicated or lost; and, for well-formed source programs none of whose
  optional chains is lowered under the configuration (the `_partial` theorems), the operation visitor, the
  block visitor and the whole pipeline return trees that erase to their input up to positions.  Lowered
  optional chains are outside the theorems; there the statement `eraseProgram (rewrite p) = p` is checked
  by the oracle on every real output.
-/
namespace IastModel.C02

theorem erase_hook (σ : Env) (e : Node) (args : List Node) (m : String) (sp : Span) :
    (erase σ (ddCall e args m sp)).1 = (erase σ e).1 := by
  simp [ddCall, ddCallee, erase, calleeKind, eraseL]

theorem length_takeWhile_le {α} (p : α → Bool) (l : List α) : (l.takeWhile p).length ≤ l.length := by
  induction l with
  | nil => simp
  | cons a l ih => simp only [List.takeWhile_cons]; split <;> simp <;> omega

theorem dropPrologue_insert (pro body : List Node) (hne : pro ≠ [])
    (hpro : ∀ x, pro.head? = some x → isDirectiveStmt x = false) :
    dropPrologue pro (insertAt body (variableInsertionIndex body) pro) = body := by
  unfold dropPrologue insertAt
  rw [C07.variableInsertionIndex_eq]
  have htw := C07.takeWhile_insert isDirectiveStmt body pro hpro
  simp only [htw]
  generalize hn : (body.takeWhile isDirectiveStmt).length = n
  have hnle : n ≤ body.length := by rw [← hn]; exact length_takeWhile_le _ _
  have hlen : (body.take n).length = n := by simp [Nat.min_eq_left hnle]
  have h1 : (body.take n ++ pro ++ body.drop n).drop n = pro ++ body.drop n := by
    rw [List.append_assoc]
    conv => lhs; arg 1; rw [← hlen]
    exact List.drop_left
  have h2 : (body.take n ++ pro ++ body.drop n).take n = body.take n := by
    rw [List.append_assoc]
    conv => lhs; arg 1; rw [← hlen]
    exact List.take_left
  rw [h1, h2]
  have h3 : (pro ++ body.drop n).take pro.length = pro := List.take_left
  have h4 : (pro ++ body.drop n).drop pro.length = body.drop n := List.drop_left
  rw [h3, h4, beqL_self]
  have : pro.isEmpty = false := by cases pro <;> simp_all
  simp [this]

/-- for every configuration the generated prologue is removable: it is not empty and does not start
    with a directive -/
theorem prologue_removable (dsts : List String) (body : List Node) :
    dropPrologue (prologue dsts) (insertAt body (variableInsertionIndex body) (prologue dsts)) = body :=
  dropPrologue_insert (prologue dsts) body (by simp [prologue]) (C07.prologue_head_not_directive dsts)


/-- **C02 / C01 (linearity of effect nodes).**  For every configuration, fuel and source program
    (hypotheses as in `master`, checked by the driver on every input), unless the rewrite is refused,
    the output is `p1`, or `p1` with the file prologue inserted, where `p1` contains exactly as many
    effect nodes as the source: calls other than hook calls, optional calls, `new`, `++`/`--`,
    `yield`, `await`, tagged templates, function / class / object expressions, `delete`, template
    literals, and assignments to anything but an injected temporary.  A transform that evaluated an
    operand twice (as `super[k()] += s` did before a700f28) or dropped one cannot satisfy this. -/
theorem effect_nodes_preserved (cfg : Config) (fuel : Nat) (p : Node) (h0 : ns p = 0) (ht : targetsOk p = true)
    (hnc : (transformProgram cfg fuel p).status ≠ .cancelled) :
    ∃ p1, eff p1 = eff p ∧
      (transformProgram cfg fuel p).out =
        (if (transformProgram cfg fuel p).status = .modified then insertPrologue (prologue cfg.dsts) p1 else p1) :=
  effect_nodes_preserved_master cfg fuel p h0 ht hnc

/-- the operation visitor alone: same number of effect nodes before and after -/
theorem visit_preserves_effect_nodes (cfg : Config) (f : Nat) (root : Bool) (n : Node) (s : St)
    (h0 : ns n = 0) (ht : targetsOk n = true) (hs : s.status ≠ .cancelled) :
    eff (visit cfg f root n s).1 = eff n :=
  visit_E cfg (okCfg cfg) (cfgOk_dsts cfg) f root n s h0 ht hs


/-- on a well-formed source tree (what the parser produces: no reserved temporary, no mention of the
    hook namespace, parentheses wider than their content, real positions) `erase` changes nothing -/
theorem erase_is_identity_on_source (n : Node) (h : srcOk n = true) (σ : Env) : erase σ n = (n, σ) :=
  erase_src n h σ

/-- **C02 for the operation visitor (partial: no optional chain of the tree is lowered under `cfg`).**  For every
    configuration, fuel, context flag, state and well-formed source tree `n` — statement, expression,
    any nesting of any node kinds — the tree the operation visitor returns erases, in every environment,
    to `n` itself up to source positions: each hook call gives way to its first argument, each
    temporary to the expression assigned to it, `T = hook(T + R, …)` to `T += R`, `t1.call(t0, …)` to
    the method call, the injected arrow body to the expression.  All transforms are covered (`+`, `+=`
    with every target shape, templates, method calls, `X.prototype.m.call|apply` with plain and spread
    this, bare calls, `apply` argument arrays with holes and spreads, arrows, optional chains that are not
    lowered); *partial*: the optional-chain *lowering* is excluded by `noOpt cfg`, and the block visitor's `let` / nested blocks and
    the file prologue are covered by the two theorems below, not by this one. -/
theorem operation_visitor_erases_to_input_partial (cfg : Config) (f : Nat) (root : Bool) (n : Node) (s : St)
    (hs : srcOk n = true) (hno : noOpt cfg n = true) :
    ∀ σ, ∃ X σ', erase σ (visit cfg f root n s).1 = (X, σ') ∧ strip X = strip n ∧ Node.eqNS X n = true := by
  intro σ
  have h := visit_VRes cfg f root n s hs hno
  cases root
  · obtain ⟨X, Δ, e, sX, _⟩ := h.2.1 _ (BRg.refl _) σ
    exact ⟨X, _, e, sX.1, eqNS_of_strip sX.1⟩
  · obtain ⟨hi, hv⟩ := h
    obtain ⟨X, Δ, e, sX, _⟩ := hv.1 _ (BRg.refl _) σ
    exact ⟨X, _, e, sX.1, eqNS_of_strip sX.1⟩

/-- in a nested (non-root) context the temporaries the erasure binds are exactly those allocated while
    visiting: nothing leaks into the environment of the surrounding expression -/
theorem operation_visitor_binds_only_its_own_temporaries_partial (cfg : Config) (f : Nat) (n : Node) (s : St)
    (hs : srcOk n = true) (hno : noOpt cfg n = true) :
    s.counter ≤ (visit cfg f false n s).2.counter ∧
    ∀ σ, ∃ X Δ, erase σ (visit cfg f false n s).1 = (X, Δ ++ σ) ∧ strip X = strip n ∧
      ∀ p ∈ Δ, s.counter ≤ p.1 ∧ p.1 < (visit cfg f false n s).2.counter := by
  have h := visit_VRes cfg f false n s hs hno
  refine ⟨h.1, ?_⟩
  intro σ
  obtain ⟨X, Δ, e, sX, w⟩ := h.2.1 _ (BRg.refl _) σ
  exact ⟨X, Δ, e, sX.1, w⟩

/-- the program a modified run returns, with the file prologue taken out again, erases like the program
    without the prologue -/
theorem eraseProgram_insertPrologue (dsts : List String) (p1 : Node) :
    eraseProgram (prologue dsts) (insertPrologue (prologue dsts) p1) = (erase [] p1).1 := by
  unfold insertPrologue
  split
  · rename_i k sp ns body vs
    simp only [eraseProgram, prologue_removable]
  · rename_i hne
    unfold eraseProgram
    split
    · rename_i k sp ns body vs
      exact absurd rfl (hne k sp ns body vs)
    · rfl

/-- **C02 for the whole pipeline (partial: programs none of whose optional chains is lowered).**  For every
    configuration, every fuel and every well-formed source program `p` (what the parser produces; `srcOk`,
    decidable, evaluated by the driver on every input) in which no optional chain is a call of a configured
    method off a chain link (`noOpt cfg p`: `a?.b.c`, `a?.b(x)`, `a?.[k]` are fine, `a?.b.trim()` with `trim`
    configured is not), whenever the
    rewrite reports the file as modified, erasing the instrumentation from the output — the file prologue,
    the injected `let` of every block at every nesting depth, every hook call, temporary, lowered `+=`,
    call through a hoisted function value and wrapped arrow body — gives back `p` itself up to source
    positions.  Operation visitor, block visitor (nested blocks, closures, classes, arrow bodies turned into
    blocks and instrumented in turn) and program visitor are all inside the statement; running out of fuel
    is covered too (what is not visited is returned as it is).  *Partial*: the optional-chain lowering
    (`noOpt cfg`). -/
theorem erasing_the_instrumentation_gives_back_the_input_partial (cfg : Config) (fuel : Nat) (p : Node)
    (hs : srcOk p = true) (hno : noOpt cfg p = true) (hnb : isBlockNode p = false)
    (hm : (transformProgram cfg fuel p).status = .modified) :
    strip (eraseProgram (prologue cfg.dsts) (transformProgram cfg fuel p).out) = strip p ∧
    Node.eqNS (eraseProgram (prologue cfg.dsts) (transformProgram cfg fuel p).out) p = true := by
  obtain ⟨p1, hbr, hout⟩ := transformProgram_BRg cfg fuel p hs hno hnb (by rw [hm]; intro h; cases h)
  rw [hout, if_pos hm, eraseProgram_insertPrologue]
  obtain ⟨X, Δ, eX, sX, _⟩ := (EVC.src 0 0 p hs).1 p1 hbr []
  rw [eX]
  exact ⟨sX.1, eqNS_of_strip sX.1⟩

/-- every block statement the block visitor returns — at any depth, in any state, for any fuel — erases,
    in every environment and without touching it, to the statements of the block it was given -/
theorem block_visitor_result_erases_to_the_block_partial (cfg : Config) (opFuel f : Nat) (ss : List Node) (sp : Span) (s : St)
    (hs : srcOk (.block ss sp) = true) (hno : noOpt cfg (.block ss sp) = true)
    (hnc : (blockVisit cfg opFuel f (.block ss sp) s).2.status ≠ .cancelled) :
    ∀ σ, ∃ es, erase σ (blockVisit cfg opFuel f (.block ss sp) s).1 = (.block es sp, σ) ∧ stripL es = stripL ss := by
  have hb := blockVisit_BRg cfg opFuel f (.block ss sp) s (blkOk_src _ hs hno) hnc
  intro σ
  rcases hb.block_inv with h | ⟨ss', h, hg⟩
  · rw [h, erase_src _ hs]; exact ⟨ss, rfl, rfl⟩
  · rw [h]
    obtain ⟨es, ee, hsim⟩ := hg σ
    exact ⟨es, ee, hsim.1⟩

/-- the hypotheses are satisfiable: `a + b()` is a well-formed source tree with no lowered optional chain -/
example : srcOk (.bin "+" (.ident (.user "a") ⟨1, 2⟩) (.call (.ident (.user "b") ⟨5, 6⟩) [] ⟨5, 8⟩) ⟨1, 8⟩) = true ∧
    ∀ cfg : Config, noOpt cfg (.bin "+" (.ident (.user "a") ⟨1, 2⟩) (.call (.ident (.user "b") ⟨5, 6⟩) [] ⟨5, 8⟩) ⟨1, 8⟩) = true := by
  constructor
  · simp [srcOk_eq, srcNode, srcOkL, Node.kids, callThisClash, Generated.ddGlobalNamespace]
  · intro cfg; simp [noOpt_eq, noOptK, Node.kids]

end IastModel.C02
