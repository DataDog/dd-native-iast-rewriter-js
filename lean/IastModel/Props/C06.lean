import IastModel.Lemmas.TempsBlock
import IastModel.Props.C02
import IastModel.Lemmas.ErTemps
/-
  C06 — temporaries are hygienic.  Proved here: (1) a file that mentions the reserved prefix in any
  identifier is refused, untouched, with the documented reason, before anything is injected; (2) the
  injected declaration declares exactly the temporaries registered for the block, as the scope checker
  reads them back; (3) the identifier provider hands out consecutive indices and registers each once;
  (4) for the whole pass, `temporaries_declared` and `every_temporary_read_is_assigned_before_partial`.
-/
namespace IastModel.C06

/-- refusal: reserved prefix anywhere ⇒ cancelled with "Variable name duplicated", tree untouched -/
theorem refused_when_reserved (cfg : Config) (pro : List Node) (fuel : Nat) (p : Node) (s : St)
    (h : hasReserved (tempPrefix cfg.localVarPrefix) p = true) :
    let r := programVisit cfg pro fuel p s
    r.1 = p ∧ r.2.status = .cancelled ∧ r.2.msg = some "Variable name duplicated" := by
  simp [programVisit, h, run_bind, run_pure, cancelVisit, run_modify]

/-- a cancelled visit injects nothing in any block reached afterwards -/
theorem cancelled_block_untouched (cfg : Config) (opFuel f : Nat) (stmts : List Node) (sp : Span) (s : St)
    (h : s.status = .cancelled) :
    blockVisit cfg opFuel (f + 1) (.block stmts sp) s = (.block stmts sp, s) := by
  simp [blockVisit, run_bind, run_get, run_pure, h]

/-- the declaration lists exactly the registered temporaries, in order -/
theorem letDecl_declares (ids : List Nat) (sp : Span) (h : ids ≠ []) :
    injectedLet? (letDecl ids sp) = some ids :=
  letDecl_declares' ids sp h

/-- `next_ident`: consecutive indices -/
theorem nextIdent_consecutive (s : St) :
    (nextIdent s).1 = s.counter ∧ (nextIdent s).2.counter = s.counter + 1 ∧ (nextIdent s).2.idents = s.idents := by
  simp [nextIdent, modifyGet, MonadStateOf.modifyGet, StateT.modifyGet, pure, Pure.pure]

/-- `register_ident`: once per index -/
theorem registerIdent_once (n : Nat) (s : St) :
    n ∈ (registerIdent n s).2.idents ∧ (s.idents.Nodup → (registerIdent n s).2.idents.Nodup) ∧
    (registerIdent n s).2.counter = s.counter := by
  simp only [registerIdent, run_modify]
  by_cases h : s.idents.contains n = true
  · simp only [h, if_true]
    exact ⟨by simpa using h, id, trivial⟩
  · simp only [h, Bool.false_eq_true, if_false]
    refine ⟨by simp, ?_, trivial⟩
    intro hn
    rw [List.nodup_append]
    refine ⟨hn, by simp, ?_⟩
    intro a ha b hb
    simp at hb
    subst hb
    intro hab
    subst hab
    simp at h
    exact h ha

/-- every temporary handed out is registered for declaration -/
theorem getTemporalIdent_registered (operand : Node) (asg : List Node) (sp : Span) (k : IdentKind) (s : St)
    (n : Nat) (h : (getTemporalIdent operand asg sp k s).1.1 = some n) :
    n = s.counter ∧ n ∈ (getTemporalIdent operand asg sp k s).2.idents := by
  unfold getTemporalIdent at h ⊢
  by_cases hl : operand.isLit = true
  · simp [hl, run_pure] at h
  · simp only [hl, Bool.false_eq_true, if_false, run_bind, run_pure] at h ⊢
    have h1 := nextIdent_consecutive s
    simp only [Option.some.injEq] at h
    rw [h1.1] at h
    subst h
    refine ⟨rfl, ?_⟩
    have := (registerIdent_once s.counter (nextIdent s).2).1
    rw [h1.1]
    exact this


/-- **C06 (no injected name is left undeclared).**  For every configuration, fuel and program that
    contains no identifier of the reserved temporary form (such a program is refused, see
    `refused_when_reserved`; the driver checks the hypothesis on every input), unless the rewrite is
    refused: every temporary of the output that occurs in the own region of a block statement (nested
    blocks excluded) is declared by an injected `let` among that block's own statements, and no
    temporary occurs outside all block statements.  (`declOK`, `Lemmas/TempsBlock.lean`.) -/
theorem temporaries_declared (cfg : Config) (fuel : Nat) (p : Node) (h0 : nt p = 0)
    (hnc : (transformProgram cfg fuel p).status ≠ .cancelled) :
    declOK [] (transformProgram cfg fuel p).out = true :=
  temporaries_declared_master cfg fuel p h0 hnc

/-- the operation visitor only ever uses temporaries it has registered for declaration: from a tree
    that is good for the registered set, the result is good for the (larger) registered set -/
theorem visit_uses_registered_temporaries (cfg : Config) (f : Nat) (root : Bool) (n : Node) (s : St)
    (h : tgood s.idents n = true) :
    tgood (visit cfg f root n s).2.idents (visit cfg f root n s).1 = true ∧
    ∀ k ∈ s.idents, k ∈ (visit cfg f root n s).2.idents :=
  visit_T cfg f root n s h

/-- **C06, "assigned before it is read" (partial: programs none of whose optional chains is lowered).**  Erasing the
    instrumentation resolves every read of a temporary through the environment built from the
    assignments met before it, in evaluation order (sequence elements left to right, the hook's first
    argument after the hoisted operands, a block's bindings not leaving the block).  For every
    configuration, fuel and well-formed source program with no lowered optional chain whose rewrite is reported
    modified, no temporary is left in the erased output: every read was preceded by an assignment of the same
    temporary in the same block.  (Corollary of `C02.erasing_the_instrumentation_gives_back_the_input_partial`.) -/
theorem every_temporary_read_is_assigned_before_partial (cfg : Config) (fuel : Nat) (p : Node)
    (hs : srcOk p = true) (hno : noOpt cfg p = true) (hnb : isBlockNode p = false)
    (hm : (transformProgram cfg fuel p).status = .modified) :
    hasTemp (eraseProgram (prologue cfg.dsts) (transformProgram cfg fuel p).out) = false := by
  have h := (C02.erasing_the_instrumentation_gives_back_the_input_partial cfg fuel p hs hno hnb hm).1
  rw [hasTemp_eq, ← noTemps_strip, h, noTemps_strip, noTemps_src p hs]
  rfl

end IastModel.C06
