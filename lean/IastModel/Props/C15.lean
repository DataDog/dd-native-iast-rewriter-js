import IastModel.Lemmas.CnMaster
/-
  C15 — reported metrics.  Read-out part (src/telemetry.rs, `get_metrics`): the three telemetry
  implementations as a function of the list of `inc` calls; then what the pass feeds them:
  `reported_count_is_hook_sites`, `debug_counts_partition_hook_sites`.
-/
namespace IastModel.C15

/-- verbosity OFF: zero and no breakdown, whatever was instrumented -/
theorem off_reports_nothing (incs : List (Option String)) :
    instrumentedPropagation .off incs = 0 ∧ propagationDebug .off incs = none := by
  simp [instrumentedPropagation, propagationDebug]

/-- every other verbosity reports the number of `inc` calls -/
theorem count_is_incs (v : Verbosity) (incs : List (Option String)) (h : v ≠ .off) :
    instrumentedPropagation v incs = incs.length := by
  cases v <;> simp_all [instrumentedPropagation]

/-- only DEBUG produces a breakdown -/
theorem breakdown_only_in_debug (v : Verbosity) (incs : List (Option String)) :
    (propagationDebug v incs).isSome ↔ v = .debug := by
  cases v <;> simp [propagationDebug]

theorem countTag_cons (t u : String) (ts : List String) :
    countTag (u :: ts) t = (if u == t then 1 else 0) + countTag ts t := by
  unfold countTag
  by_cases h : u == t <;> simp [h] <;> omega

/-- the status string is the lower-cased status and the file name is the argument -/
theorem status_and_file (cfg : Config) (r : ModelResult) (file : String) :
    (getMetrics cfg r file).file = file ∧
    (getMetrics cfg r file).status = r.status.name.toLower := by
  simp [getMetrics]

theorem status_strings :
    Status.notModified.name.toLower = "notmodified" ∧ Status.modified.name.toLower = "modified" ∧
    Status.cancelled.name.toLower = "cancelled" := by decide +kernel


/-- **C15 (count).**  For every configuration, fuel and source program (one that does not itself
    mention the hook namespace and whose compound-assignment targets have JavaScript shapes — both
    checked on every input by the driver), if the rewrite is not refused then the number of
    `_ddiast.<name>(…)` call sites in the output equals the number of telemetry increments, and
    therefore the reported `instrumentedPropagation` under every verbosity but OFF. -/
theorem reported_count_is_hook_sites (cfg : Config) (fuel : Nat) (p : Node)
    (h0 : ns p = 0) (ht : targetsOk p = true)
    (hnc : (transformProgram cfg fuel p).status ≠ .cancelled) (hv : cfg.verbosity ≠ .off) :
    instrumentedPropagation cfg.verbosity (transformProgram cfg fuel p).incs =
      hookCount (transformProgram cfg fuel p).out := by
  rw [count_is_incs _ _ hv]
  exact (master cfg fuel p h0 ht hnc).1.symm

/-- non-vacuity: a program that satisfies the hypotheses and is instrumented -/
example : ns (Node.exprStmt (.bin "+" (.ident (.user "a") ⟨0, 1⟩) (.ident (.user "b") ⟨4, 5⟩) ⟨0, 5⟩) ⟨0, 5⟩) = 0 := by
  decide +kernel


/-- **C15 (per-operation breakdown).**  For every replacement name `d`: the number of
    `_ddiast.d(…)` call sites of the output equals the number of telemetry entries whose tag stands for
    `d` (`+` and `+=` for the plus operator, `Tpl` for the template operator, a method's source name
    for its replacement name) — so the per-tag debug counts partition the reported number by operation.
    Whole pipeline, every configuration in which no method is named like an operator tag
    (`CfgTagsOk`), every fuel and program (hypotheses as in `master`), unless refused. -/
theorem debug_counts_partition_hook_sites (cfg : Config) (fuel : Nat) (p : Node)
    (h0 : ns p = 0) (ht : targetsOk p = true) (hct : CfgTagsOk cfg)
    (hnc : (transformProgram cfg fuel p).status ≠ .cancelled) (d : String) :
    countStr (hookNames (transformProgram cfg fuel p).out) d = countTags cfg d (transformProgram cfg fuel p).incs :=
  tags_partition_hooks_master cfg fuel p h0 ht hct hnc d

end IastModel.C15
