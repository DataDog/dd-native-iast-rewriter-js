import IastModel.Spec.Codec
/-
  C10 — the chained map is the composition of the rewrite map with the original map.
  Model of `chain_source_maps`: every token of the rewrite map keeps its generated position and is
  re-targeted to what the original map says about its source position; tokens the original map has
  nothing for are dropped.
-/
namespace IastModel.C10
open Codec

/-- what `chain_source_maps` does with one token of the rewrite map -/
def retarget (orig : List Token) (t : Token) : Option Token :=
  match t.src with
  | none => none
  | some (_, l, c) =>
    match lookup orig l c with
    | none => none
    | some o => some { genLine := t.genLine, genCol := t.genCol, src := o.src, name := o.name }

/-- the chained token list -/
def chain (rewriteMap orig : List Token) : List Token := rewriteMap.filterMap (retarget orig)

/-- every token of the rewrite map finds a token in the original map -/
def AllResolvable (rewriteMap orig : List Token) : Prop := ∀ t ∈ rewriteMap, (retarget orig t).isSome

def retargetD (orig : List Token) (t : Token) : Token := (retarget orig t).getD t

theorem retargetD_pos (orig : List Token) (t : Token) :
    (retargetD orig t).genLine = t.genLine ∧ (retargetD orig t).genCol = t.genCol := by
  unfold retargetD retarget
  split
  · simp
  · split <;> simp

theorem chain_eq_map (rw orig : List Token) (h : AllResolvable rw orig) :
    chain rw orig = rw.map (retargetD orig) := by
  unfold chain
  induction rw with
  | nil => rfl
  | cons t ts ih =>
    have ht := h t (by simp)
    have hts : AllResolvable ts orig := fun x hx => h x (by simp [hx])
    cases hr : retarget orig t with
    | none => simp [hr] at ht
    | some o => simp [hr, retargetD, ih hts]

/-- C10 (composition): looking a generated position up in the chained map gives the token found in
    the rewrite map, re-targeted through the original map — for every position -/
theorem chain_lookup (rw orig : List Token) (h : AllResolvable rw orig) (line col : Nat) :
    lookup (chain rw orig) line col = (lookup rw line col).map (retargetD orig) := by
  rw [chain_eq_map rw orig h]
  exact lookup_map (retargetD orig) (retargetD_pos orig) rw line col

/-- generated positions are never moved by chaining, resolvable or not -/
theorem chain_positions (rw orig : List Token) :
    ∀ t ∈ chain rw orig, ∃ t0 ∈ rw, t.genLine = t0.genLine ∧ t.genCol = t0.genCol := by
  intro t ht
  unfold chain at ht
  rw [List.mem_filterMap] at ht
  obtain ⟨t0, h0, hr⟩ := ht
  refine ⟨t0, h0, ?_⟩
  unfold retarget at hr
  split at hr
  · simp at hr
  · split at hr
    · simp at hr
    · simp at hr; subst hr; simp

/-- the map writer does not repeat a token equal to the one just written (`dedupConsecutive` of the
    checked model, on abstract tokens) -/
def dedup : List Token → List Token
  | a :: b :: rest => if a = b then dedup (b :: rest) else a :: dedup (b :: rest)
  | l => l

/-- the last element of a filtered list, one element at a time -/
theorem last_of_filter_cons (p : Token → Bool) (a : Token) (l : List Token) :
    ((a :: l).filter p).getLast? = ((l.filter p).getLast?).or (if p a then some a else none) := by
  by_cases h : p a = true
  · simp only [List.filter_cons, h, if_true]
    cases hr : l.filter p with
    | nil => simp
    | cons x xs =>
      rw [List.getLast?_cons_cons]
      have : (x :: xs).getLast? = some ((x :: xs).getLast (by simp)) := List.getLast?_eq_getLast (by simp)
      rw [this]; rfl
  · simp only [List.filter_cons, h, Bool.false_eq_true, if_false]
    cases (l.filter p).getLast? <;> simp

/-- dropping a token equal to its successor changes no lookup -/
theorem lookup_dedup : ∀ (l : List Token) (line col : Nat), lookup (dedup l) line col = lookup l line col := by
  intro l line col
  unfold lookup
  generalize (fun t : Token => posLe t.genLine t.genCol line col) = p
  induction l using dedup.induct with
  | case1 a rest ih =>
    rw [dedup, if_pos rfl, ih, last_of_filter_cons p a (a :: rest), last_of_filter_cons p a rest]
    cases ((rest.filter p).getLast?) <;> cases (if p a = true then some a else none) <;> simp
  | case2 a b rest hab ih =>
    rw [dedup, if_neg hab, last_of_filter_cons p a (dedup (b :: rest)), ih, ← last_of_filter_cons p a (b :: rest)]
  | case3 l hl => rw [dedup]; exact hl

/-- **C10 (composition, as emitted).**  The chained map as the writer emits it — tokens re-targeted
    through the original map, then repeated tokens dropped — answers every lookup like looking the
    position up in the rewrite map and then in the original map. -/
theorem emitted_chain_lookup (rw orig : List Token) (h : AllResolvable rw orig) (line col : Nat) :
    lookup (dedup (chain rw orig)) line col = (lookup rw line col).map (retargetD orig) := by
  rw [lookup_dedup, chain_lookup rw orig h]

/-- the rewrite tokens the original map resolves -/
def resolvable (orig : List Token) (rw : List Token) : List Token := rw.filter fun t => (retarget orig t).isSome

theorem chain_eq_resolvable (rw orig : List Token) : chain rw orig = chain (resolvable orig rw) orig := by
  unfold chain resolvable
  induction rw with
  | nil => rfl
  | cons t ts ih =>
    cases hr : retarget orig t with
    | none => simp [hr, ih]
    | some o => simp [hr, ih]

theorem resolvable_all (rw orig : List Token) : AllResolvable (resolvable orig rw) orig := by
  intro t ht
  simp only [resolvable, List.mem_filter] at ht
  exact ht.2

/-- **C10 (composition, every pair of maps).**  For *every* rewrite map and original map: the chained map
    as the writer emits it answers every lookup like looking the position up among the rewrite tokens the
    original map resolves, and then in the original map.  (A rewrite token whose source position lies before
    the first token of the original map has no origin to be re-targeted to and is dropped — the recorded
    behaviour F19 — so a position inside it resolves like the token before it.) -/
theorem emitted_chain_lookup_general (rw orig : List Token) (line col : Nat) :
    lookup (dedup (chain rw orig)) line col = (lookup (resolvable orig rw) line col).map (retargetD orig) := by
  rw [chain_eq_resolvable]
  exact emitted_chain_lookup (resolvable orig rw) orig (resolvable_all rw orig) line col

/-- non-vacuity -/
example : AllResolvable [⟨0, 4, some (0, 2, 1), none⟩] [⟨2, 0, some (0, 10, 3), some 1⟩] := by
  intro t ht
  simp at ht
  subst ht
  decide

end IastModel.C10
