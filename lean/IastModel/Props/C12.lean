import IastModel.Lemmas.Master
/-
  C12 — the reported status never disagrees with the content.
  Proved here about the model of `update_status` / `transform_js`: the status becomes Modified only
  through an operation that reported Modified (and each such report is counted), never flips back, and
  a cancelled rewrite stays cancelled; and about the whole pass, `status_agrees_with_content`.
-/
namespace IastModel.C12

/-- `update_status`: the status is Modified afterwards iff it was before or this operation modified -/
theorem updateStatus_status (st : Status) (tag : Option String) (s : St) (h : s.status ≠ .cancelled)
    (hst : st ≠ .cancelled) :
    ((updateStatus st tag s).2.status = .modified ↔ s.status = .modified ∨ st = .modified) ∧
    (updateStatus st tag s).2.status ≠ .cancelled := by
  cases st <;> cases hs : s.status <;> simp_all [updateStatus, run_modify]

/-- one count per modifying operation, none otherwise -/
theorem updateStatus_incs (st : Status) (tag : Option String) (s : St) (h : s.status ≠ .cancelled) :
    (updateStatus st tag s).2.incs = if st = .modified then s.incs ++ [tag] else s.incs := by
  cases st <;> cases hs : s.status <;> simp_all [updateStatus, run_modify]

/-- a not-modified report changes nothing at all -/
theorem updateStatus_notModified (tag : Option String) (s : St) :
    (updateStatus .notModified tag s).2 = s :=
  IastModel.updateStatus_notModified tag s

/-- cancelled is absorbing -/
theorem updateStatus_cancelled (st : Status) (tag : Option String) (s : St) (h : s.status = .cancelled) :
    (updateStatus st tag s).2 = s := by
  simp [updateStatus, run_modify, h]

/-- the prologue goes in exactly when the status is Modified (`visit_mut_program`) -/
theorem prologue_iff_modified (pro : List Node) (p : Node) (s : St) :
    let r := (do let s ← get; if s.status == .modified then pure (insertPrologue pro p) else pure p : M Node) s
    r.1 = if s.status = .modified then insertPrologue pro p else p := by
  cases hs : s.status <;> simp [run_bind, run_get, run_pure, hs]


/-- **C12 (status ⇔ content).**  For every configuration, fuel and source program (hypotheses as in
    `master`), if the rewrite is not refused: the status is `modified` exactly when the output contains
    at least one hook call, in which case the output is the instrumented program with the prologue
    inserted; it is `notModified` exactly when the output contains no hook call at all. -/
theorem status_agrees_with_content (cfg : Config) (fuel : Nat) (p : Node)
    (h0 : ns p = 0) (ht : targetsOk p = true)
    (hnc : (transformProgram cfg fuel p).status ≠ .cancelled) :
    ((transformProgram cfg fuel p).status = .modified ↔ 0 < hookCount (transformProgram cfg fuel p).out) ∧
    ((transformProgram cfg fuel p).status = .notModified ↔ hookCount (transformProgram cfg fuel p).out = 0) ∧
    ((transformProgram cfg fuel p).status = .modified →
      ∃ p1, (transformProgram cfg fuel p).out = insertPrologue (prologue cfg.dsts) p1) := by
  obtain ⟨hc, _, hm, hn, hp⟩ := master cfg fuel p h0 ht hnc
  refine ⟨?_, ?_, ?_⟩
  · rw [hm, hc]
    constructor
    · intro h; exact List.length_pos_iff.mpr h
    · intro h; exact List.length_pos_iff.mp h
  · rw [hn, hc]
    constructor
    · intro h; simp [h]
    · intro h; exact List.eq_nil_of_length_eq_zero h
  · intro h
    obtain ⟨p1, h1, _⟩ := hp h
    exact ⟨p1, h1⟩

end IastModel.C12
