import IastModel.Lemmas.Master
/-
  C05 — configuration honoured: the defaulting part (src/lib_wasm.rs `to_config`,
  `TelemetryVerbosity::parse`, `CsiMethod::new`), stated against the *documented* values and proved
  about the definitions regenerated from the source.  For the rewriting pass: `only_configured_hooks`.
-/
namespace IastModel.C05

/-- the documented defaults: no chaining, no comments, literals on, telemetry INFORMATION, no methods,
    the prefix chosen by the random generator -/
theorem defaults (rnd : String) :
    let c := toConfig { chainSourceMap := none, comments := none, localVarPrefix := none, csiMethods := none,
                        telemetryVerbosity := none, literals := none } rnd
    c.chainSourceMap = false ∧ c.printComments = false ∧ c.literals = true ∧
    c.verbosity = Verbosity.information ∧ c.localVarPrefix = rnd ∧ c.methods = [] := by
  simp [toConfig, parseVerbosity, Generated.defaultChainSourceMap, Generated.defaultComments,
    Generated.defaultLiterals, Generated.verbosityAbsent, Verbosity.ofName]

/-- an explicit prefix is used as given -/
theorem prefix_explicit (r : RawConfig) (p rnd : String) (h : r.localVarPrefix = some p) :
    (toConfig r rnd).localVarPrefix = p := by simp [toConfig, h]

/-- replacement name defaults to the source name; flags default to false -/
theorem method_defaults (src : String) :
    CsiMethod.ofRaw { src := src, dst := none, operator := none, allowedWithoutCallee := none }
      = { src := src, dst := src, operator := false, allowedWithoutCallee := false } := by
  simp [CsiMethod.ofRaw, Generated.defaultOperator, Generated.defaultAllowedWithoutCallee]

/-- verbosity parsing is total and case-insensitive, with INFORMATION for anything unknown -/
theorem verbosity_known :
    parseVerbosity (some "OFF") = .off ∧ parseVerbosity (some "off") = .off ∧
    parseVerbosity (some "MANDATORY") = .mandatory ∧ parseVerbosity (some "INFORMATION") = .information ∧
    parseVerbosity (some "DEBUG") = .debug ∧ parseVerbosity (some "Debug") = .debug := by
  decide +kernel

theorem verbosity_fallback (s : String)
    (h : Generated.verbosityTable.find? (fun p => p.1 == s.toUpper) = none) :
    parseVerbosity (some s) = .information := by
  simp [parseVerbosity, h, Generated.verbosityFallback, Verbosity.ofName]

/-- the random prefix: `rnd_string(6)` draws 6 characters from the lowercase alphabet.  Model: the
    draws are indices into the alphabet (what `fastrand::usize(0..chars.len())` returns). -/
def rndString (draws : List (Fin 26)) : String :=
  String.ofList (draws.map fun i => (Generated.rndAlphabet.toList)[i.val]!)

theorem alphabet_is_lowercase : Generated.rndAlphabet.toList.all Char.isLower = true ∧
    Generated.rndAlphabet.toList.length = 26 ∧ Generated.rndPrefixLength = 6 := by decide

/-- `get` only ever returns a configured, non-operator entry with that source name -/
theorem get_sound (c : Config) (name : String) (m : CsiMethod) (h : c.get name = some m) :
    m ∈ c.methods ∧ m.operator = false ∧ m.src = name := by
  unfold Config.get at h
  have hm := List.mem_of_find?_eq_some h
  have hp := List.find?_some h
  simp at hp
  exact ⟨hm, hp.1, hp.2⟩

/-- an empty method list enables nothing -/
theorem empty_enables_nothing (c : Config) (h : c.methods = []) :
    c.plusEnabled = false ∧ c.tplEnabled = false ∧ ∀ n, c.get n = none := by
  simp [Config.plusEnabled, Config.tplEnabled, Config.plusOperator, Config.tplOperator, Config.get, h]


/-- **C05 (closed world of names).**  For every configuration, fuel and source program (hypotheses
    as in `master`), if the rewrite is not refused then every `_ddiast.<name>(…)` call site of the
    output uses the replacement name of a configured method or operator. -/
theorem only_configured_hooks (cfg : Config) (fuel : Nat) (p : Node)
    (h0 : ns p = 0) (ht : targetsOk p = true)
    (hnc : (transformProgram cfg fuel p).status ≠ .cancelled) :
    ∀ nm ∈ hookNames (transformProgram cfg fuel p).out, nm ∈ cfg.dsts :=
  (master cfg fuel p h0 ht hnc).2.1

/-- with an empty method list nothing is ever instrumented: every input is reported not modified -/
theorem empty_config_not_modified (cfg : Config) (fuel : Nat) (p : Node) (hm : cfg.methods = [])
    (h0 : ns p = 0) (ht : targetsOk p = true)
    (hnc : (transformProgram cfg fuel p).status ≠ .cancelled) :
    (transformProgram cfg fuel p).status = .notModified := by
  obtain ⟨hc, hnames, hmod, hn, _⟩ := master cfg fuel p h0 ht hnc
  rw [hn]
  cases hi : (transformProgram cfg fuel p).incs with
  | nil => rfl
  | cons t ts =>
    exfalso
    -- a hook call site would have to carry one of the (zero) configured names
    have hpos : 0 < hookCount (transformProgram cfg fuel p).out := by rw [hc, hi]; simp
    rw [← hooks_length] at hpos
    obtain ⟨h, hh⟩ := List.exists_mem_of_length_pos hpos
    have hhook : isHook h = true := by
      have := hh
      unfold hooks at this
      exact Node.collect_sound _ _ _ this
    obtain ⟨nm, hnm⟩ := Option.isSome_iff_exists.mp hhook
    have : nm ∈ hookNames (transformProgram cfg fuel p).out := by
      unfold hookNames
      exact List.mem_filterMap.mpr ⟨h, hh, hnm⟩
    have := hnames nm this
    simp [Config.dsts, hm] at this

end IastModel.C05
