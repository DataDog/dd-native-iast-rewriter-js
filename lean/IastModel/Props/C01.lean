import IastModel.Spec.Sem
import IastModel.Rewriter.Transforms
import IastModel.Lemmas.Monad
/-
  C01 — rewritten code behaves like the input when hooks are pass-through.
  Proved, for every host (every run-time value, every side effect, every exception the host can model):
  the two shapes the `+` transform builds simulate the source sum —
    * both operands hoisted: `(t_k = L', t_{k+1} = R', hook(t_k + t_{k+1}, t_k, t_{k+1}))`, given that L'
      and R' simulate L and R within the temporaries below k (so the lemma composes through nesting);
    * both operands kept in place: `hook(x + y, x, y)`, under the documented by-design hypothesis that the
      `+` itself does not change what reading x and y yields;
  and the model of `binary_add_transform.rs` returns exactly the first shape, numbered from the current
  counter, whenever both operands are of a hoisted kind (the tie between transformer model and semantics).
  Whole-program equivalence is supported by the erase oracle (C02) and by differential execution in V8.
-/
namespace IastModel.C01
open Sem

variable (H : Host)

theorem sim_lit (k v r : String) (sp : Span) (lo : Nat) :
    Sim H lo lo (semO H (.lit k v r sp)) (sem H (.lit k v r sp)) := by
  intro w t; simp [sem, semO]

theorem sim_user_ident (x : String) (sp : Span) (lo : Nat) :
    Sim H lo lo (semO H (.ident (.user x) sp)) (sem H (.ident (.user x) sp)) := by
  intro w t; simp [sem, semO]

theorem Sim.mono {lo hi lo' hi' : Nat} {d : DenW H} {d' : Den H} (h : Sim H lo hi d d')
    (h1 : lo' ≤ lo) (h2 : hi ≤ hi') : Sim H lo' hi' d d' := by
  intro w t
  obtain ⟨a, b, c⟩ := h w t
  exact ⟨a, b, fun n hn => c n (by omega)⟩

/-- the shape `to_dd_binary_expr` builds when both operands are hoisted -/
def plusReplace (l' r' : Node) (k : Nat) (name : String) (sp : Span) : Node :=
  ddParen (.bin "+" (tempIdent k) (tempIdent (k + 1)) sp) [.arg none (tempIdent k), .arg none (tempIdent (k + 1))]
    [.assign "=" (tempIdent k) l' sp, .assign "=" (tempIdent (k + 1)) r' sp] name sp

theorem setT_same (t : T H) (n : Nat) (v : H.V) : setT H t n v n = v := if_pos rfl

theorem setT_other (t : T H) {n m : Nat} (v : H.V) (h : m ≠ n) : setT H t n v m = t m := if_neg h

theorem sem_arg (s : Option Span) (e : Node) : sem H (.arg s e) = sem H e := by simp only [sem]

theorem sem_temp (k : Nat) (st : S H) : sem H (tempIdent k) st = (.ok (st.2 k), st) := by
  simp only [tempIdent, sem]

theorem sem_tempSum (k : Nat) (sp : Span) (st : S H) :
    sem H (.bin "+" (tempIdent k) (tempIdent (k + 1)) sp) st =
      ((H.add (st.2 k) (st.2 (k + 1)) st.1).1, ((H.add (st.2 k) (st.2 (k + 1)) st.1).2, st.2)) := by
  simp only [tempIdent, sem, bindD]
  rfl

theorem sem_tempAssign (k : Nat) (r : Node) (sp : Span) (st : S H) :
    sem H (.assign "=" (tempIdent k) r sp) st =
      match sem H r st with
      | (.ok v, st') => (.ok v, (st'.1, setT H st'.2 k v))
      | (.error x, st') => (.error x, st') := by
  simp only [tempIdent, sem, bindD]
  rfl

theorem sem_parenSeq (es : List Node) (sp sp' : Span) (st : S H) :
    sem H (.paren (.seq es sp) sp') st =
      match semList H es st with
      | (.ok vs, st') => (.ok (vs.getLast?.getD H.undef), st')
      | (.error x, st') => (.error x, st') := by
  simp only [sem]
  rfl

theorem semList_temps (ks : List Nat) (st : S H) :
    semList H (ks.map fun n => .arg none (tempIdent n)) st = (.ok (ks.map st.2), st) := by
  induction ks with
  | nil => rfl
  | cons k ks ih => simp only [List.map, semList, sem_arg, sem_temp, ih]

/-- a hook call whose further arguments are temporaries means what its first argument means -/
theorem sem_hook_temps (first : Node) (ks : List Nat) (name : String) (sp : Span) (st : S H) :
    sem H (ddCall first (ks.map fun n => .arg none (tempIdent n)) name sp) st = sem H first st := by
  have h : isHookCallee (ddCallee name sp) = true := beq_self_eq_true _
  simp only [ddCall, sem, h, if_true, semList, semList_temps]
  rcases sem H first st with ⟨_ | v, st'⟩ <;> rfl

/-- what the hoisted shape computes: `l'`, bound to `t_k`; `r'`, bound to `t_(k+1)`; the sum of the two temporaries -/
theorem sem_plusReplace (l' r' : Node) (k : Nat) (name : String) (sp : Span) (st : S H) :
    sem H (plusReplace l' r' k name sp) st =
      match sem H l' st with
      | (.error x, st1) => (.error x, st1)
      | (.ok vl, st1) =>
        match sem H r' (st1.1, setT H st1.2 k vl) with
        | (.error x, st2) => (.error x, st2)
        | (.ok vr, st2) =>
          ((H.add (setT H st2.2 (k + 1) vr k) (setT H st2.2 (k + 1) vr (k + 1)) st2.1).1,
           ((H.add (setT H st2.2 (k + 1) vr k) (setT H st2.2 (k + 1) vr (k + 1)) st2.1).2, setT H st2.2 (k + 1) vr)) := by
  have hshape : plusReplace l' r' k name sp = .paren (.seq [.assign "=" (tempIdent k) l' sp, .assign "=" (tempIdent (k + 1)) r' sp,
      ddCall (.bin "+" (tempIdent k) (tempIdent (k + 1)) sp) ([k, k + 1].map fun n => .arg none (tempIdent n)) name sp] sp) sp := rfl
  rw [hshape]
  simp only [sem_parenSeq, semList, sem_tempAssign, sem_hook_temps, sem_tempSum]
  rcases sem H l' st with ⟨_ | vl, st1⟩
  · rfl
  · dsimp only
    rcases sem H r' (st1.1, setT H st1.2 k vl) with ⟨_ | vr, st2⟩
    · rfl
    · dsimp only
      rcases H.add (setT H st2.2 (k + 1) vr k) (setT H st2.2 (k + 1) vr (k + 1)) st2.1 with ⟨_ | v, w3⟩ <;> rfl

theorem sim_plus_replace (l r l' r' : Node) (lo k : Nat) (hlo : lo ≤ k) (name : String) (sp : Span)
    (hl : Sim H lo k (semO H l) (sem H l'))
    (hr : Sim H lo k (semO H r) (sem H r')) :
    Sim H lo (k + 2) (semO H (.bin "+" l r sp)) (sem H (plusReplace l' r' k name sp)) := by
  intro w t
  obtain ⟨hl1, hl2, hl3⟩ := hl w t
  rw [sem_plusReplace]
  simp only [semO, bindW, beq_self_eq_true, if_true]
  rcases hsl : sem H l' (w, t) with ⟨rl, w1, t1⟩
  rw [hsl] at hl1 hl2 hl3
  dsimp only at hl1 hl2 hl3
  rw [show semO H l w = (rl, w1) from Prod.ext hl1.symm hl2.symm]
  cases rl with
  | error x => exact ⟨rfl, rfl, fun n hn => hl3 n (by omega)⟩
  | ok vl =>
    dsimp only
    obtain ⟨hr1, hr2, hr3⟩ := hr w1 (setT H t1 k vl)
    rcases hsr : sem H r' (w1, setT H t1 k vl) with ⟨rr, w2, t2⟩
    rw [hsr] at hr1 hr2 hr3
    dsimp only at hr1 hr2 hr3
    rw [show semO H r w1 = (rr, w2) from Prod.ext hr1.symm hr2.symm]
    -- `r'` leaves `t_k` and everything outside `[lo, k)` as `l'` and the first assignment left them
    have keep : ∀ n, n < lo ∨ k + 2 ≤ n → t2 n = t n := fun n hn => by
      rw [hr3 n (by omega), setT_other H _ _ (by omega)]; exact hl3 n (by omega)
    cases rr with
    | error x => exact ⟨rfl, rfl, keep⟩
    | ok vr =>
      dsimp only
      rw [setT_same, setT_other H _ _ (Nat.ne_of_lt (Nat.lt_succ_self k)), hr3 k (Or.inr (Nat.le_refl k)), setT_same]
      exact ⟨rfl, rfl, fun n hn => by rw [setT_other H _ _ (by omega)]; exact keep n hn⟩

/-- the shape `to_dd_binary_expr` builds when both operands stay in place (identifiers / literals) -/
def plusKeep (a b : Node) (name : String) (sp : Span) : Node :=
  ddParen (.bin "+" a b sp) [.arg none a, .arg none b] [] name sp

/-- Keep mode: `hook(x + y, x, y)` behaves like `x + y` provided the `+` itself does not change what
    reading `x` and `y` yields (the hypothesis of the documented by-design carve-out: an operand whose
    coercion rebinds the other operand's variable is out of scope) -/
theorem sim_plus_keep (x y : String) (sx sy sp : Span) (name : String) (lo : Nat)
    (hpres : ∀ vx vy w, (H.add vx vy w).1.isOk = true →
      H.readVar x (H.add vx vy w).2 = H.readVar x w ∧ H.readVar y (H.add vx vy w).2 = H.readVar y w) :
    Sim H lo lo (semO H (.bin "+" (.ident (.user x) sx) (.ident (.user y) sy) sp))
      (sem H (plusKeep (.ident (.user x) sx) (.ident (.user y) sy) name sp)) := by
  intro w t
  simp only [plusKeep, ddParen, ddCall, ddCallee, List.isEmpty_nil, if_true, sem, semO, semList, bindD, bindW,
    isHookCallee, beq_self_eq_true]
  rcases hx : H.readVar x w with ex | vx
  · simp [hx]
  · rcases hy : H.readVar y w with ey | vy
    · simp [hx, hy]
    · rcases hadd : H.add vx vy w with ⟨ra, w3⟩
      cases ra with
      | error e => simp [hx, hy, hadd]
      | ok v =>
        have hp := hpres vx vy w (by rw [hadd]; rfl)
        rw [hadd] at hp
        simp only at hp
        simp [hp.1, hp.2, hx, hy, hadd]


/-- operand kinds the handler always hoists into a temporary -/
def hoisted : Node → Bool
  | .lit .. => false
  | .ident .. => false
  | .bin .. => false
  | _ => true

theorem replaceExpr_hoisted (e : Node) (mode : IdentMode) (asg args : List Node) (sp : Span) (s : St)
    (h : hoisted e = true) :
    replaceExpr e mode asg args sp .expr false s
      = ((tempIdent s.counter, asg ++ [.assign "=" (tempIdent s.counter) e sp], args ++ [.arg none (tempIdent s.counter)]),
         { s with counter := s.counter + 1, idents := if s.idents.contains s.counter then s.idents else s.idents ++ [s.counter] }) := by
  have hl : e.isLit = false := by cases e <;> first | rfl | cases h
  have hd : replaceExpr e mode asg args sp .expr false = replaceDefault e asg args sp .expr := by
    cases e <;> first | rfl | cases h
  rw [hd]
  simp only [replaceDefault, getIdentUsed, getTemporalIdent, hl, Bool.false_eq_true, if_false, run_bind, run_pure,
    nextIdent, registerIdent, run_modifyGet, run_modify, assignRight, exprOrSpread]
  congr 1
  by_cases hc : s.idents.contains s.counter = true <;> simp only [hc, if_true, Bool.false_eq_true, if_false]

/-- tie between the model of `binary_add_transform.rs` and the semantic lemma: with two hoisted
    operands the transform returns exactly the shape `sim_plus_replace` is about, numbered from the
    current counter -/
theorem toDdBinary_replace_shape (cfg : Config) (l r : Node) (sp : Span) (s : St)
    (hl : hoisted l = true) (hr : hoisted r = true) :
    (toDdBinary cfg (.bin "+" l r sp) s).1 = some (plusReplace l r s.counter cfg.plusName sp) := by
  unfold toDdBinary
  simp only [run_bind]
  rw [replaceExpr_hoisted l _ [] [] sp s hl]
  simp only
  rw [replaceExpr_hoisted r _ _ _ sp _ hr]
  simp [mustReplaceBinary, argExpr, tempIdent, isLiteralSum, plusReplace, run_pure]

end IastModel.C01
