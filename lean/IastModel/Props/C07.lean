import IastModel.Lemmas.DirectivePass
/-
  C07 — directive prologues survive.  Proved: the insertion index computed by
  `get_variable_insertion_index` is the length of the directive prologue, and inserting anything that is
  not itself a directive at that index leaves the directive prologue of the statement list unchanged —
  for the injected `let` (every block) and for the file prologue (program body); through the whole pass,
  `block_directives_through_pass` and `program_directives_through_pass`.
-/
namespace IastModel.C07

theorem variableInsertionIndex_eq (stmts : List Node) :
    variableInsertionIndex stmts = (stmts.takeWhile isDirectiveStmt).length := by
  unfold variableInsertionIndex
  congr 2
  funext n
  exact isDirective_eq n

theorem takeWhile_insert {α} (p : α → Bool) (l xs : List α) (hx : ∀ x, xs.head? = some x → p x = false) :
    (l.take (l.takeWhile p).length ++ xs ++ l.drop (l.takeWhile p).length).takeWhile p = l.takeWhile p :=
  IastModel.takeWhile_insert p l xs hx

/-- C07 (statement-list level): inserting non-directive statements at the index the rewriter uses
    keeps the directive prologue exactly as it was -/
theorem directives_preserved_by_insertion (stmts xs : List Node)
    (hx : ∀ x, xs.head? = some x → isDirectiveStmt x = false) :
    directivesOf (insertAt stmts (variableInsertionIndex stmts) xs) = directivesOf stmts := by
  unfold directivesOf insertAt
  rw [variableInsertionIndex_eq, takeWhile_insert isDirectiveStmt stmts xs hx]

/-- the injected `let` is not a directive -/
theorem letDecl_not_directive (ids : List Nat) (sp : Span) : isDirectiveStmt (letDecl ids sp) = false := rfl

/-- C07 for every block: `insert_variable_declaration` keeps the block's directive prologue -/
theorem block_directives_preserved (ids : List Nat) (stmts : List Node) (sp : Span) :
    ∃ stmts', insertVariableDeclaration ids (.block stmts sp) = .block stmts' sp ∧
      directivesOf stmts' = directivesOf stmts := by
  unfold insertVariableDeclaration
  by_cases h : ids.isEmpty = true
  · exact ⟨stmts, by simp [h], rfl⟩
  · refine ⟨insertAt stmts (variableInsertionIndex stmts) [letDecl ids sp], by simp [h], ?_⟩
    apply directives_preserved_by_insertion
    intro x hx
    simp at hx
    subst hx
    rfl

/-- C07 for the program: the file prologue (its first statement is the empty statement `;`) goes after
    the whole directive prologue of the body -/
theorem program_directives_preserved (pro : List Node) (k : String) (sp : Span) (ns : List String)
    (body : List Node) (vs : List Node)
    (hpro : ∀ x, pro.head? = some x → isDirectiveStmt x = false) :
    directivesOf (programBody (insertPrologue pro (.other k sp ("body" :: ns) (.arr body :: vs))))
      = directivesOf body := by
  simp only [insertPrologue, programBody]
  exact directives_preserved_by_insertion body pro hpro

/-- the generated prologue starts with `;` for every configuration -/
theorem prologue_head_not_directive (dsts : List String) :
    ∀ x, (prologue dsts).head? = some x → isDirectiveStmt x = false := by
  intro x hx
  simp [prologue] at hx
  subst hx
  rfl

/-- non-vacuity: two directives, the second one being `'use strict'` -/
example : directivesOf (insertAt
    [.exprStmt (.lit "StringLiteral" "other" "'other'" ⟨1,8⟩) ⟨1,9⟩,
     .exprStmt (.lit "StringLiteral" "use strict" "'use strict'" ⟨10,22⟩) ⟨10,23⟩,
     .exprStmt (.ident (.user "x") ⟨24,25⟩) ⟨24,26⟩]
    (variableInsertionIndex
    [.exprStmt (.lit "StringLiteral" "other" "'other'" ⟨1,8⟩) ⟨1,9⟩,
     .exprStmt (.lit "StringLiteral" "use strict" "'use strict'" ⟨10,22⟩) ⟨10,23⟩,
     .exprStmt (.ident (.user "x") ⟨24,25⟩) ⟨24,26⟩]) [letDecl [0] ⟨0, 30⟩])
    = ["'other'", "'use strict'"] := by
  decide +kernel


/-- **C07, per block, through the whole pass.**  Whatever block statement the block visitor enters —
    a function body or any other block, at any depth, in any state — it returns a block whose leading
    directives are exactly the original statements: the operation visitor returns a directive as it is
    and never makes one, the `let` goes after the whole directive prologue, and the nested traversal
    leaves directives alone. -/
theorem block_directives_through_pass (cfg : Config) (opFuel f : Nat) (ss : List Node) (sp : Span) (s : St) :
    ∃ ss', (blockVisit cfg opFuel f (.block ss sp) s).1 = .block ss' sp ∧
      directivesOf ss' = directivesOf ss := by
  obtain ⟨ss', h1, h2⟩ := block_directives_pass cfg opFuel f ss sp s
  exact ⟨ss', h1, directivesOf_congr h2⟩

/-- **C07 for the file.**  The directive prologue of the program body is the same before and after
    the whole pass, prologue insertion included. -/
theorem program_directives_through_pass (cfg : Config) (pro : List Node) (fuel : Nat) (k : String) (sp : Span)
    (ns : List String) (body vs : List Node) (s : St)
    (hpro : ∀ x, pro.head? = some x → isDirectiveStmt x = false) :
    directivesOf (programBody (programVisit cfg pro fuel (.other k sp ("body" :: ns) (.arr body :: vs)) s).1) =
      directivesOf body := by
  by_cases hr : hasReserved (tempPrefix cfg.localVarPrefix) (.other k sp ("body" :: ns) (.arr body :: vs)) = true
  · simp [programVisit, hr, run_bind, run_pure, cancelVisit, run_modify, programBody]
  · simp only [Bool.not_eq_true] at hr
    rw [programVisit_eq cfg pro fuel _ s hr]
    simp only [mapKidsM, Node.kids, mapM', run_bind, run_pure, Node.withKids]
    obtain ⟨body', hb, hd⟩ := blockVisit_arr cfg fuel fuel body s
    rw [hb]
    split
    · rw [program_directives_preserved pro k sp ns body' _ hpro]
      exact directivesOf_congr hd
    · simp only [programBody]
      exact directivesOf_congr hd


end IastModel.C07
