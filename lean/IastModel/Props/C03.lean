import IastModel.Lemmas.CwMaster
/-
  C03 — hooks receive the true result and the true operands, in order (static half).
  Proved: for every operand that is not a `+` chain the operand handler pushes exactly the operand it
  leaves in the wrapped expression (same temporary / identifier / literal, spread flag kept), and a hook
  call built for `l + r` from its two operands passes the mirror check `(l + r, l, r)` — the check the
  oracle applies to every hook site of every real output.  The file ends in the whole-pipeline statement,
  `every_hook_mirrors_its_operation`.
-/
namespace IastModel.C03

theorem replaceDefault_pushes (e : Node) (asg args : List Node) (sp : Span) (kind : IdentKind) (s : St) :
    (replaceDefault e asg args sp kind s).1.2.2 = args ++ [exprOrSpread (replaceDefault e asg args sp kind s).1.1 kind] := by
  unfold replaceDefault getIdentUsed getTemporalIdent
  by_cases hl : e.isLit = true
  · simp [hl, run_bind, run_pure]
  · simp [hl, run_bind, run_pure, run_map]

theorem handler_pushes_what_it_leaves (e : Node) (mode : IdentMode) (asg args : List Node) (sp : Span)
    (kind : IdentKind) (s : St) (h : isPlusSum e = false) :
    (replaceExprNoExpand e mode asg args sp kind s).1.2.2
      = args ++ [exprOrSpread (replaceExprNoExpand e mode asg args sp kind s).1.1 kind] := by
  cases e with
  | lit k v r lsp => simp [replaceExprNoExpand, run_pure]
  | ident nm isp =>
    cases mode with
    | replace => simp only [replaceExprNoExpand]; exact replaceDefault_pushes ..
    | keep => simp [replaceExprNoExpand, run_pure]
  | bin op l r bsp =>
    have hop : op ≠ "+" := by
      intro hh; subst hh; simp [isPlusSum] at h
    simp only [replaceExprNoExpand, bne_iff_ne, ne_eq, hop, not_false_eq_true, if_true]
    exact replaceDefault_pushes ..
  | _ => simp only [replaceExprNoExpand]; exact replaceDefault_pushes ..

/-- the hook call for a sum whose operands are the pushed ones mirrors them -/
theorem plus_hook_mirrors (cfg : Config) (l r : Node) (sp : Span) :
    argsMirrorSite cfg (ddCall (.bin "+" l r sp) [.arg none l, .arg none r] cfg.plusName sp) = none := by
  simp [argsMirrorSite, argsMirrorFirst, mirrorPlus, ddCall, ddCallee, argsEq, Node.eqNSL, Node.eqNS, Node.eqNS_refl]

/-- the hook call for a template mirrors its substitutions -/
theorem tpl_hook_mirrors (cfg : Config) (exprs quasis : List Node) (sp : Span)
    (h : ∀ e ∈ exprs, mirrorOf e = .arg none e) :
    argsMirrorSite cfg (ddCall (.tpl exprs quasis sp) (exprs.map fun e => .arg none e) cfg.tplName sp) = none := by
  have : exprs.map mirrorOf = exprs.map fun e => Node.arg none e := List.map_congr_left h
  simp [argsMirrorSite, argsMirrorFirst, mirrorTpl, ddCall, ddCallee, argsEq, this, Node.eqNSL_refl]

/-! ### every hook call the rewriter builds mirrors the operation in its first argument

`MirOK cfg h`: the specification `argsMirrorSite` (the oracle applied to every hook site of every real
output) accepts the site `h`, or classifies it as "a `+` chain that is not made of literals only is among
the operands and was not passed on" — the omission recorded as a known finding (KNOWN_FINDINGS.txt, C03).
No other mismatch class is possible, for any operands, any argument list (spreads, `apply` arrays with
holes and spreads, sums of literals), any state. -/

theorem plus_hook_built_mirrors (cfg : Config) (l r : Node) (sp : Span) (s : St) (e' : Node)
    (h : (toDdBinary cfg (.bin "+" l r sp) s).1 = some e') :
    ∃ first args asg, e' = ddParen first args asg cfg.plusName sp ∧ MirOK cfg (ddCall first args cfg.plusName sp) :=
  toDdBinary_mirror cfg l r sp s e' h

theorem plus_assign_hook_built_mirrors (cfg : Config) (op : String) (left r : Node) (sp : Span) (s : St) (e' : Node)
    (h : (toDdAssign cfg (.assign op left r sp) s).1 = some e') :
    ∃ target first args asg, e' = .assign "=" target (ddParen first args asg cfg.plusName sp) sp ∧
      MirOK cfg (ddCall first args cfg.plusName sp) :=
  toDdAssign_mirror cfg op left r sp s e' h

theorem template_hook_built_mirrors (cfg : Config) (es qs : List Node) (sp : Span) (s : St) (e' : Node)
    (h : (toDdTpl cfg (.tpl es qs sp) s).1 = some e') :
    ∃ first args asg, e' = ddParen first args asg cfg.tplName sp ∧ MirOK cfg (ddCall first args cfg.tplName sp) :=
  toDdTpl_mirror cfg es qs sp s e' h

/-- method calls: `recv.m(…)`, `m(…)` without receiver, `X.prototype.m.call|apply(this, …)`, with a
    spread `this`, with `apply` arrays -/
theorem call_hook_built_mirrors (cfg : Config) (callee : Node) (cargs : List Node) (csp : Span) (s : St)
    (e' : Node) (tag : String) (h : (toDdCall cfg (.call callee cargs csp) s).1 = some (e', tag)) :
    ∃ first args asg name sp, e' = ddParen first args asg name sp ∧ MirOK cfg (ddCall first args name sp) :=
  toDdCall_mirror cfg callee cargs csp s e' tag h

/-- **Every hook call of the instrumented program mirrors the operation in its first argument** (the static
    half of C03, whole pipeline).  For every configuration, fuel and program (hypotheses as in `master`:
    the source does not mention the hook namespace, its `+=` targets are of the parser's shapes; both
    reported per input by the driver), unless the rewrite is refused: every hook call site of the output
    is accepted by `argsMirrorSite` or is classified as the recorded omission (`MirOK`).  Proved through
    a certificate established where each hook call is built (`Cert`, `toDd*_cert`, `replaceCall*_cert`), shown to survive the
    only later change to a built site — the block visitor rewriting block statements nested in it
    (`BR`, `cert_BR`, `blockVisit_BR`) — and a counting pass over the visitors (`visit_W`,
    `blockVisit_W`, generic in the counted predicate: `CqCount`, `CvVisit`, `CwBlock`). -/
theorem every_hook_mirrors_its_operation (cfg : Config) (fuel : Nat) (p : Node) (h0 : ns p = 0) (ht : targetsOk p = true)
    (hnc : (transformProgram cfg fuel p).status ≠ .cancelled) :
    ∀ h ∈ hooks (transformProgram cfg fuel p).out, MirOK cfg h :=
  hooks_mirror_master cfg fuel p h0 ht hnc

/-- in the executable vocabulary of the oracle: the only classes `argsMirror` can report on a model
    output are the three "sum omitted" classes -/
theorem argsMirror_reports_only_omitted_sums (cfg : Config) (fuel : Nat) (p : Node) (h0 : ns p = 0) (ht : targetsOk p = true)
    (hnc : (transformProgram cfg fuel p).status ≠ .cancelled) :
    ∀ c ∈ argsMirror cfg (transformProgram cfg fuel p).out,
      c = sumClass cfg "plus" ∨ c = sumClass cfg "tpl" ∨ c = sumClass cfg "call" := by
  intro c hc
  simp only [argsMirror, List.mem_filterMap] at hc
  obtain ⟨h, hh, hs⟩ := hc
  rcases hooks_mirror_master cfg fuel p h0 ht hnc h hh with hm | ⟨w, hw, hm⟩
  · rw [hm] at hs; cases hs
  · rw [hm] at hs
    simp only [Option.some.injEq] at hs
    subst hs
    rcases hw with rfl | rfl | rfl
    · exact Or.inl rfl
    · exact Or.inr (Or.inl rfl)
    · exact Or.inr (Or.inr rfl)

/-- the operation visitor alone leaves no hook site that fails the mirror check -/
theorem visit_leaves_only_mirroring_hooks (cfg : Config) (f : Nat) (root : Bool) (n : Node) (s : St)
    (h0 : ns n = 0) (ht : targetsOk n = true) (hs : s.status ≠ .cancelled) :
    ∀ h ∈ hooks (visit cfg f root n s).1, MirOK cfg h := by
  have hz : cv cfg (visit cfg f root n s).1 = 0 := by
    rw [visit_V cfg (okCfg cfg) (cfgOk_dsts cfg) f root n s h0 ht hs]
    exact cq_of_ns0 _ n h0
  intro h hh
  have := cq_zero_hooks _ _ hz h hh
  exact MirOK_of_siteOKb (by simpa [badSite] using this)

end IastModel.C03
