import IastModel.Lemmas.TrSpec
/-
  The call forms under the master invariant (`replaceCallWithMember_spec`, …, `toDdCall_spec`).  `rcwmTail` is
  `replaceCallWithMember` after its receiver has been given a temporary; `replaceCall_dd` is the end the three forms share:
  the replaced call, receiver in front of its arguments, wrapped by `ddParen`.
-/
namespace IastModel
open Node

theorem trspec2_none (ok u n0) (s : St) : TrSpec2 ok u n0 ((none : Option (Node × String)), s) s :=
  ⟨TS.refl s, fun _ _ h => nomatch h⟩

theorem TrSpec2.cast {ok u} {n0 n1 : Nat} {R : Option (Node × String) × St} {s : St} (h : TrSpec2 ok u n0 R s) (e : n0 = n1) :
    TrSpec2 ok u n1 R s := e ▸ h

theorem trSpec2_ddParen_call (ok u) {dst : String} (hok : ok dst = true) (n0 : Nat) (method : String) {s0 s : St} (ts : TS s s0)
    {callee' : Node} {pre cargs' args' asg' : List Node} (csp : Span)
    (gc : goodW ok u callee' = true) (gp : goodL ok u pre = true) (gca : goodL ok u cargs' = true)
    (gg : goodL ok u args' = true) (ga : goodL ok u asg' = true)
    (hn : ns callee' + nsL pre + nsL cargs' + nsL args' + nsL asg' = n0) :
    TrSpec2 ok u n0 (some (ddParen (.call callee' (pre ++ cargs') csp) args' asg' dst csp, method), s) s0 := by
  refine ⟨ts, fun e' tag h => ?_⟩
  cases h
  refine ⟨?_, ?_⟩
  · rw [good_ddParen, hok, good_call _ _ _ _ _ gc, goodL_append, gp, gca, gg, ga]; rfl
  · rw [ns_ddParen, ns_call, nsL_append, ← hn]; omega

/-- the end of every call transform: callee and arguments are replaced and the call, with `pre` (the
    receiver, if there is one) put in front of its arguments, is handed to the hook `dst` -/
theorem replaceCall_dd (ok u) {dst : String} (hok : ok dst = true) (method : String) (callee : Node) (cargs : List Node)
    (csp : Span) (identCallee : Option Node) (asg args : List Node) (coa : Option String) (s0 s : St) (ts : TS s s0)
    (pre : List Node) (hc : goodW ok u callee = true) (hi : ∀ i, identCallee = some i → goodW ok u i = true ∧ ns i = 0)
    (hca : goodL ok u cargs = true) (ha : goodL ok u asg = true) (hg : goodL ok u args = true)
    (hpre : goodL ok u pre = true) :
    let R := replaceCallCalleeAndArgs callee cargs csp identCallee asg args coa s
    ∃ callee' cargs', R.1.1 = .call callee' cargs' csp ∧
      TrSpec2 ok u ((if identCallee.isSome then 0 else ns callee) + nsL pre + nsL cargs + nsL asg + nsL args)
        (some (ddParen (.call callee' (pre ++ cargs') csp) R.1.2.2 R.1.2.1 dst csp, method), R.2) s0 := by
  simp only [replaceCallCalleeAndArgs, run_bind, run_pure]
  have h := replaceArgs_spec ok u .replace csp
    ((coa.getD Generated.callMethodName) == Generated.applyMethodName) cargs asg args s hca ha hg
  generalize replaceArgs .replace csp ((coa.getD Generated.callMethodName) == Generated.applyMethodName) cargs asg args s = R at h ⊢
  obtain ⟨⟨cargs', asg', args'⟩, s'⟩ := R
  obtain ⟨g1, g2, g3, c1, c2, t1⟩ := h
  dsimp only at c1 c2 ⊢
  refine ⟨_, _, rfl, trSpec2_ddParen_call ok u hok _ method (t1.trans ts) csp ?_ hpre g1 g3 g2 ?_⟩
  · cases identCallee with
    | none => exact hc
    | some i => dsimp only; rw [good_member, (hi i rfl).1, good_pname]; rfl
  · cases identCallee with
    | none => simp only [Option.isSome_none, Bool.false_eq_true, if_false]; omega
    | some i => simp only [Option.isSome_some, if_true, ns_member, (hi i rfl).2, ns_pname]; omega

/-- the part of `replaceCallWithMember` after the receiver has been given its temporary -/
def rcwmTail (dst method : String) (identReplacement memberExpr expr callee : Node) (cargs asg0 : List Node)
    (csp : Span) (coa : Option String) : M (Option (Node × String)) := do
  let (identCallee, asg1, args1) ← getIdentUsed memberExpr asg0 [] csp .expr
  let args2 := args1 ++ [.arg none identReplacement]
  let calleeExpr := match identCallee with
    | some n => tempIdent n
    | none => expr
  let (callRepl, asg3, args3) ← replaceCallCalleeAndArgs callee cargs csp (some calleeExpr) asg1 args2 coa
  pure (some (ddParen (insertThis callRepl identReplacement) args3 asg3 dst csp, method))

def identOr (ir : Option Nat) (e : Node) : Node :=
  match ir with
  | some n => tempIdent n
  | none => e

def memberOr (memberOpt : Option Node) (m : Node) : Node :=
  match memberOpt with
  | some x => x
  | none => m

theorem replaceCallWithMember_unfold (cfg : Config) (expr : Node) (method : String) (msp : Span)
    (callee : Node) (cargs : List Node) (csp : Span) (memberOpt : Option Node) (coa : Option String) (s : St)
    (csi : CsiMethod) (hg : cfg.get method = some csi) :
    replaceCallWithMember cfg expr method msp callee cargs csp memberOpt coa s =
      let R0 := getTemporalIdent expr [] csp .expr s
      rcwmTail csi.dst method (identOr R0.1.1 expr)
        (memberOr memberOpt (.member (identOr R0.1.1 expr) (.pname method msp) csp)) expr callee cargs R0.1.2 csp coa R0.2 := by
  unfold replaceCallWithMember rcwmTail
  simp only [hg, run_bind, run_pure]
  generalize getTemporalIdent expr [] csp .expr s = R0
  obtain ⟨⟨ir, asg0⟩, s0⟩ := R0
  cases ir <;> cases memberOpt <;> rfl

theorem rcwmTail_spec (ok u) (dst method : String) (identReplacement memberExpr expr callee : Node) (cargs asg0 : List Node)
    (csp : Span) (coa : Option String) (s0 : St) (hok : ok dst = true)
    (gir : goodW ok u identReplacement = true) (nir : ns identReplacement = 0)
    (gme : goodW ok u memberExpr = true) (lme : memberExpr.isLit = false)
    (hc : goodW ok u callee = true) (hca : goodL ok u cargs = true) (ga0 : goodL ok u asg0 = true) :
    TrSpec2 ok u (nsL asg0 + nsL cargs + ns memberExpr)
      (rcwmTail dst method identReplacement memberExpr expr callee cargs asg0 csp coa s0) s0 := by
  unfold rcwmTail
  simp only [run_bind, run_pure]
  rcases getIdentUsed_cases memberExpr asg0 [] csp .expr s0 with ⟨hl, _⟩ | ⟨_, n1, s1, h1, t1⟩
  · rw [lme] at hl; cases hl
  · rw [h1]
    obtain ⟨callee', cargs', hcr, h⟩ := replaceCall_dd ok u hok method callee cargs csp (some (tempIdent n1))
      (asg0 ++ [.assign "=" (tempIdent n1) (assignRight memberExpr .expr) csp])
      ([] ++ [exprOrSpread (tempIdent n1) .expr] ++ [.arg none identReplacement]) coa s0 s1 t1 [.arg none identReplacement] hc
      (fun i hi => by cases hi; exact ⟨good_temp .., ns_temp ..⟩) hca
      (by rw [goodL_append, ga0, goodL_cons, good_assign, tempIdent, good_temp, assignRight, gme]; rfl)
      (by simp only [List.nil_append, List.cons_append, goodL_cons, goodL_nil, exprOrSpread, good_arg, tempIdent, good_temp, gir,
        Bool.and_self])
      (by rw [goodL_cons, good_arg, gir]; rfl)
    rw [hcr]
    refine h.cast ?_
    simp only [Option.isSome_some, if_true, nsL_append, nsL_cons, nsL_nil, ns_assign, ns_exprOrSpread, ns_arg, tempIdent, ns_temp,
      assignRight, nir]
    omega

theorem replaceCallWithMember_spec (ok u) (cfg : Config) (expr : Node) (method : String) (msp : Span)
    (callee : Node) (cargs : List Node) (csp : Span) (memberOpt : Option Node) (coa : Option String) (s : St)
    (hcfg : ∀ m csi, cfg.get m = some csi → ok csi.dst = true)
    (he : goodW ok u expr = true) (hc : goodW ok u callee = true) (hca : goodL ok u cargs = true)
    (hm : ∀ m, memberOpt = some m → goodW ok u m = true ∧ m.isLit = false) :
    TrSpec2 ok u (ns expr + nsL cargs + (memberOpt.map ns).getD 0)
      (replaceCallWithMember cfg expr method msp callee cargs csp memberOpt coa s) s := by
  cases hg : cfg.get method with
  | none =>
    unfold replaceCallWithMember
    simp only [hg]
    exact ⟨TS.refl s, by intro e' tag h; cases h⟩
  | some csi =>
    have hok := hcfg _ _ hg
    rw [replaceCallWithMember_unfold _ _ _ _ _ _ _ _ _ _ csi hg]
    -- the receiver
    have hR0 : ∃ ir asg0 s0, getTemporalIdent expr [] csp .expr s = ((ir, asg0), s0) ∧ TS s0 s ∧
        goodL ok u asg0 = true ∧ goodW ok u (identOr ir expr) = true ∧ ns (identOr ir expr) = 0 ∧ nsL asg0 = ns expr := by
      rcases getTemporalIdent_cases expr [] csp .expr s with ⟨hl, h⟩ | ⟨hl, n, s', h, ht⟩
      · exact ⟨none, [], s, h, TS.refl s, rfl, he, isLit_ns hl, by simp [isLit_ns hl]⟩
      · exact ⟨some n, _, s', h, ht, by simp [tempIdent, assignRight, he], by simp [identOr, tempIdent], by simp [identOr, tempIdent],
          by simp [tempIdent, assignRight]⟩
    obtain ⟨ir, asg0, s0, h0, t0, ga0, gir, nir, na0⟩ := hR0
    rw [h0]
    simp only
    have gme : goodW ok u (memberOr memberOpt (.member (identOr ir expr) (.pname method msp) csp)) = true ∧
        (memberOr memberOpt (.member (identOr ir expr) (.pname method msp) csp)).isLit = false ∧
        ns (memberOr memberOpt (.member (identOr ir expr) (.pname method msp) csp)) = (memberOpt.map ns).getD 0 := by
      cases memberOpt with
      | none => simp [memberOr, gir, nir, Node.isLit]
      | some m => simp [memberOr, (hm m rfl).1, (hm m rfl).2]
    have ht := rcwmTail_spec ok u csi.dst method (identOr ir expr) _ expr callee cargs asg0 csp coa s0 hok gir nir gme.1 gme.2.1 hc hca ga0
    rw [gme.2.2, na0] at ht
    exact ⟨TS.trans ht.1 t0, ht.2⟩

theorem replaceCallSpreadWithMember_spec (ok u) (cfg : Config) (method : String)
    (callee : Node) (cargs : List Node) (csp : Span) (memberExpr : Node) (coa : String) (s : St)
    (hcfg : ∀ m csi, cfg.get m = some csi → ok csi.dst = true)
    (hc : goodW ok u callee = true) (hca : goodL ok u cargs = true) (gme : goodW ok u memberExpr = true) :
    TrSpec2 ok u (nsL cargs + ns memberExpr)
      (replaceCallSpreadWithMember cfg method callee cargs csp memberExpr coa s) s := by
  unfold replaceCallSpreadWithMember
  cases hg : cfg.get method with
  | none => exact trspec2_none ..
  | some csi =>
    simp only [run_bind]
    rcases getIdentUsed_cases memberExpr [] [] csp .expr s with ⟨hl, h1⟩ | ⟨_, n1, s1, h1, t1⟩
    · rw [h1]; exact trspec2_none ..
    · rw [h1]
      obtain ⟨callee', cargs', hcr, h⟩ := replaceCall_dd ok u (hcfg _ _ hg) method callee cargs csp (some (tempIdent n1))
        ([] ++ [.assign "=" (tempIdent n1) (assignRight memberExpr .expr) csp])
        ([] ++ [exprOrSpread (tempIdent n1) .expr]) (some coa) s s1 t1 [] hc
        (fun i hi => by cases hi; exact ⟨good_temp .., ns_temp ..⟩) hca
        (by rw [List.nil_append, goodL_cons, good_assign, tempIdent, good_temp, assignRight, gme]; rfl)
        (by rw [List.nil_append, goodL_cons, exprOrSpread, good_arg, tempIdent, good_temp]; rfl) rfl
      simp only [run_bind]
      rw [hcr]
      refine h.cast ?_
      simp only [Option.isSome_some, if_true, List.nil_append, nsL_cons, nsL_nil, ns_assign, ns_exprOrSpread, tempIdent, ns_temp,
        assignRight]
      omega

theorem replaceCallWithoutCallee_spec (ok u) (cfg : Config) (name : Name) (isp : Span) (cargs : List Node) (csp : Span) (s : St)
    (hcfg : ∀ m csi, cfg.get m = some csi → ok csi.dst = true)
    (hc : goodW ok u (.ident name isp) = true) (hca : goodL ok u cargs = true) :
    TrSpec2 ok u (nsL cargs) (replaceCallWithoutCallee cfg name isp (.ident name isp) cargs csp s) s := by
  unfold replaceCallWithoutCallee
  cases name with
  | temp k => exact trspec2_none ..
  | user method =>
    dsimp only
    cases hg : cfg.get method with
    | none => exact trspec2_none ..
    | some csi =>
      dsimp only
      by_cases hal : csi.allowedWithoutCallee = true
      · rw [if_pos hal]
        simp only [run_bind, run_pure]
        have hn0 : ns (.ident (.user method) isp) = 0 := good_leaf_ns hc rfl
        have hu : ns (.ident (.user "undefined") csp) = 0 := by rw [ns_user]; decide
        obtain ⟨callee', cargs', hcr, h⟩ := replaceCall_dd ok u (hcfg _ _ hg) method (.ident (.user method) isp) cargs csp none []
          [Node.arg none (.ident (.user method) isp), .arg none (.ident (.user "undefined") csp)] none s s (TS.refl s) [] hc
          (fun i hi => nomatch hi) hca rfl
          (by simp only [goodL_cons, goodL_nil, good_arg, hc, good_user, Bool.true_and, Bool.and_true]; decide) rfl
        rw [hcr]
        refine h.cast ?_
        simp only [Option.isSome_none, Bool.false_eq_true, if_false, nsL_cons, nsL_nil, ns_arg, hn0, hu, Nat.add_zero, Nat.zero_add]
      · rw [if_neg hal]; exact trspec2_none ..


theorem ns_argExpr (a : Node) : ns (argExpr a) = ns a := by
  unfold argExpr; split
  · exact (ns_arg ..).symm
  · rfl
theorem good_argExpr (ok u) (a : Node) : goodW ok u (argExpr a) = goodW ok u a := by
  unfold argExpr; split
  · exact (good_arg ..).symm
  · rfl

theorem isStaticPath_isLit {m : Node} (h : isStaticPath m = true) : m.isLit = false := by
  unfold isStaticPath at h
  split at h
  · rfl
  · cases h

theorem prototypeMethodIdent_some {member : Node} {m : String} {msp : Span} (h : prototypeMethodIdent member = some (m, msp)) :
    ∃ o sp, member = .member o (.pname m msp) sp := by
  unfold prototypeMethodIdent at h
  split at h
  · split at h
    · cases h; exact ⟨_, _, rfl⟩
    · cases h
  · cases h

theorem replacePrototypeCallOrApply_spec (ok u) (cfg : Config) (cargs : List Node) (csp : Span) (callee member : Node)
    (coa : String) (s : St)
    (hcfg : ∀ m csi, cfg.get m = some csi → ok csi.dst = true)
    (hc : goodW ok u callee = true) (hca : goodL ok u cargs = true) (gm : goodW ok u member = true) :
    TrSpec2 ok u (ns member + nsL cargs) (replacePrototypeCallOrApply cfg cargs csp callee member coa s) s := by
  refine replacePrototype_cases (P := fun m => TrSpec2 ok u (ns member + nsL cargs) (m s) s) cfg cargs csp callee member coa
    (trspec2_none ..) ?_ ?_
  · intro method msp th rest _ _ _
    exact (replaceCallSpreadWithMember_spec ok u cfg method callee cargs csp _ coa s hcfg hc hca gm).cast (Nat.add_comm _ _)
  · rintro method msp th rest hp rfl _
    obtain ⟨mo, msp0, rfl⟩ := prototypeMethodIdent_some hp
    rw [goodL_cons, Bool.and_eq_true] at hca
    have := replaceCallWithMember_spec ok u cfg (argExpr th) method msp
      (Node.member (argExpr th) (.pname method msp) csp) rest csp
      (some (.member mo (.pname method msp) msp0)) (some coa) s hcfg
      (by rw [good_argExpr]; exact hca.1) (by rw [good_member, good_argExpr, hca.1, good_pname]; rfl) hca.2
      (fun m hm => by cases hm; exact ⟨gm, rfl⟩)
    rw [Option.map_some, Option.getD_some, ns_argExpr] at this
    exact this.cast (by rw [nsL_cons]; omega)

theorem toDdCall_spec (ok u) (cfg : Config) (callee : Node) (cargs : List Node) (csp : Span) (s : St)
    (hcfg : ∀ m csi, cfg.get m = some csi → ok csi.dst = true)
    (hc : goodW ok u callee = true) (hca : goodL ok u cargs = true) :
    TrSpec2 ok u (ns callee + nsL cargs) (toDdCall cfg (.call callee cargs csp) s) s := by
  have hobj : ∀ {obj m msp cs}, callee = .member obj (.pname m msp) cs → goodW ok u obj = true ∧ ns callee = ns obj := by
    rintro obj m msp cs rfl
    rw [good_member, good_pname, Bool.and_true] at hc
    exact ⟨hc, by rw [ns_member, ns_pname]; rfl⟩
  refine toDdCall_cases (P := fun m => TrSpec2 ok u (ns callee + nsL cargs) (m s) s) cfg callee cargs csp (trspec2_none ..) ?_ ?_ ?_
  · intro obj m msp cs he
    rw [(hobj he).2]
    exact replaceCallWithMember_spec ok u cfg obj m msp _ cargs csp none none s hcfg (hobj he).1 hc hca nofun
  · intro o p sp m msp cs he _
    rw [(hobj he).2]
    exact replacePrototypeCallOrApply_spec ok u cfg cargs csp _ _ m s hcfg hc hca (hobj he).1
  · rintro name isp rfl
    rw [good_leaf_ns hc rfl, Nat.zero_add]
    exact replaceCallWithoutCallee_spec ok u cfg name isp cargs csp s hcfg hc hca

end IastModel
