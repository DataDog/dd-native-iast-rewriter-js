import IastModel.Lemmas.BlockRewrite2
namespace IastModel
open Node

@[simp] theorem noBlk_lit (k v r : String) (sp : Span) : noBlk (.lit k v r sp) = true := by rw [noBlk_eq]; rfl
@[simp] theorem noBlk_ident (n : Name) (sp : Span) : noBlk (.ident n sp) = true := by rw [noBlk_eq]; rfl
@[simp] theorem noBlk_pname (n : String) (sp : Span) : noBlk (.pname n sp) = true := by rw [noBlk_eq]; rfl
@[simp] theorem noBlk_arg (s : Option Span) (e : Node) : noBlk (.arg s e) = noBlk e := by rw [noBlk_eq]; simp [isBlockNode, kids]
@[simp] theorem noBlk_bin (op : String) (l r : Node) (sp : Span) : noBlk (.bin op l r sp) = (noBlk l && noBlk r) := by
  rw [noBlk_eq]; simp [isBlockNode, kids]
@[simp] theorem noBlk_unary (op : String) (a : Node) (sp : Span) : noBlk (.unary op a sp) = noBlk a := by rw [noBlk_eq]; simp [isBlockNode, kids]
@[simp] theorem noBlk_member (o p : Node) (sp : Span) : noBlk (.member o p sp) = (noBlk o && noBlk p) := by
  rw [noBlk_eq]; simp [isBlockNode, kids]
@[simp] theorem noBlk_tempIdent (n : Nat) : noBlk (tempIdent n) = true := by simp [tempIdent]
@[simp] theorem noBlk_voidZero : noBlk voidZero = true := by simp [voidZero]
@[simp] theorem noBlk_exprOrSpread (e : Node) (k : IdentKind) : noBlk (exprOrSpread e k) = noBlk e := by
  cases k <;> simp [exprOrSpread]
theorem noBlk_ddCallee (m : String) (sp : Span) : noBlk (ddCallee m sp) = true := by simp [ddCallee]

theorem isLiteralSum_noBlk : ∀ e : Node, isLiteralSum e = true → noBlk e = true := by
  intro e
  induction e using Node.rec (motive_2 := fun _ => True) with
  | lit => intro _; simp
  | bin op l r sp ihl ihr =>
    intro h
    simp [isLiteralSum] at h
    simp [ihl h.1.2, ihr h.2]
  | nil => trivial
  | cons => trivial
  | _ => intro h; simp [isLiteralSum] at h

theorem isLit_noBlk {e : Node} (h : e.isLit = true) : noBlk e = true := by
  cases e <;> simp_all [Node.isLit]

theorem OpOut.noBlk {e : Node} (h : OpOut e) (hn : nlSum e = false) : noBlk e = true := by
  rcases h with h | h | h
  · exact isLiteralSum_noBlk e h
  · cases e <;> first | exact noBlk_ident .. | cases h
  · rw [h] at hn; cases hn

theorem noBlkL_pushOf {e : Node} (k : IdentKind) (h : nlSum e = false → noBlk e = true) : noBlkL (pushOf e k) = true := by
  unfold pushOf
  by_cases hs : nlSum e = true
  · simp [hs]
  · simp only [hs, Bool.false_eq_true, if_false, noBlkL_cons, noBlkL_nil, Bool.and_true, noBlk_exprOrSpread]
    exact h (by simpa using hs)

theorem replaceExprNoExpand_nb (e : Node) (mode : IdentMode) (asg args : List Node) (sp : Span) (k : IdentKind) (s : St) :
    noBlkL (pushOf (replaceExprNoExpand e mode asg args sp k s).1.1 k) = true :=
  noBlkL_pushOf k (replaceExprNoExpand_push e mode asg args sp k s).2.noBlk

theorem replaceElem_nb (a : Node) (mode : IdentMode) (asg args : List Node) (sp : Span) (s : St) :
    noBlkL (pushOfElem (replaceElem a mode asg args sp s).1.1) = true := by
  cases a with
  | arg spread e =>
    simp only [replaceElem, replaceArgNoExpand, run_bind, run_pure, pushOfElem]
    exact replaceExprNoExpand_nb e mode asg args sp _ s
  | _ => simp [replaceElem, run_pure, pushOfElem]

theorem noBlkL_flatten {α} (f : α → List Node) (xs : List α) (h : ∀ x ∈ xs, noBlkL (f x) = true) :
    noBlkL (xs.map f).flatten = true := by
  induction xs with
  | nil => rfl
  | cons x xs ih =>
    simp only [List.map_cons, List.flatten_cons, noBlkL_append, Bool.and_eq_true]
    exact ⟨h x (by simp), ih (fun y hy => h y (by simp [hy]))⟩

theorem replaceElems_nb (mode : IdentMode) (sp : Span) : ∀ (xs asg args : List Node) (s : St),
    noBlkL ((replaceElems mode sp xs asg args s).1.1.map pushOfElem).flatten = true := by
  intro xs
  induction xs with
  | nil => intro asg args s; simp [replaceElems, run_pure]
  | cons x xs ih =>
    intro asg args s
    simp only [replaceElems, run_bind, run_pure, List.map_cons, List.flatten_cons, noBlkL_append, Bool.and_eq_true]
    exact ⟨replaceElem_nb x mode asg args sp s, ih _ _ _⟩

theorem replaceExpr_nb (e : Node) (mode : IdentMode) (asg args : List Node) (sp : Span) (k : IdentKind) (expand : Bool) (s : St) :
    noBlkL (pushOfX (replaceExpr e mode asg args sp k expand s).1.1 k expand) = true := by
  unfold replaceExpr
  split
  · rename_i elems asp
    simp only [run_bind, run_pure, pushOfX]
    exact replaceElems_nb mode sp elems asg args s
  · rw [pushOfX_notArray (replaceExprNoExpand_push e mode asg args sp k s).2.notArray]
    exact replaceExprNoExpand_nb e mode asg args sp k s

theorem replaceArg_nb (a : Node) (mode : IdentMode) (asg args : List Node) (sp : Span) (expand : Bool) (s : St) :
    noBlkL (pushOfArgX expand (replaceArg a mode asg args sp expand s).1.1) = true := by
  cases a with
  | arg spread e =>
    simp only [replaceArg, run_bind, run_pure, pushOfArgX]
    exact replaceExpr_nb e mode asg args sp _ expand s
  | _ => simp [replaceArg, run_pure, pushOfArgX]

theorem replaceArgs_nb (mode : IdentMode) (sp : Span) (expand : Bool) : ∀ (xs asg args : List Node) (s : St),
    noBlkL ((replaceArgs mode sp expand xs asg args s).1.1.map (pushOfArgX expand)).flatten = true := by
  intro xs
  induction xs with
  | nil => intro asg args s; simp [replaceArgs, run_pure]
  | cons x xs ih =>
    intro asg args s
    simp only [replaceArgs, run_bind, run_pure, List.map_cons, List.flatten_cons, noBlkL_append, Bool.and_eq_true]
    exact ⟨replaceArg_nb x mode asg args sp expand s, ih _ _ _⟩

theorem replaceTplExprs_nb : ∀ (xs asg args : List Node) (s : St),
    noBlkL ((replaceTplExprs xs asg args s).1.1.map (fun e => pushOf e .expr)).flatten = true := by
  intro xs
  induction xs with
  | nil => intro asg args s; simp [replaceTplExprs, run_pure]
  | cons x xs ih =>
    intro asg args s
    simp only [replaceTplExprs, run_bind, run_pure, List.map_cons, List.flatten_cons, noBlkL_append, Bool.and_eq_true]
    refine ⟨?_, ih _ _ _⟩
    rw [replaceExpr_false]
    exact replaceExprNoExpand_nb ..

end IastModel
