import IastModel.Lemmas.TrCall
/-
  `+=` under the master invariant: the target split keeps goodness and moves or repeats only parts without namespace
  references (`splitMemberTarget_spec`, for targets of one of JavaScript's shapes), then `toDdAssign_spec`.
-/
namespace IastModel
open Node

theorem atom_ns_good {v : Node} (h : isAtomNode v = true) : ns v = 0 ∧ ∀ ok u, goodW ok u v = true := by
  unfold isAtomNode at h
  split at h
  · exact ⟨ns_atom _, fun ok u => good_atom ok u _⟩
  · cases h

theorem nsL_atoms (vs : List Node) (h : vs.all isAtomNode = true) : nsL vs = 0 := by
  induction vs with
  | nil => rfl
  | cons v vs ih =>
    rw [List.all_cons, Bool.and_eq_true] at h
    rw [nsL_cons, (atom_ns_good h.1).1, ih h.2]

theorem goodL_atoms (ok u) (vs : List Node) (h : vs.all isAtomNode = true) : goodL ok u vs = true :=
  List.all_eq_true.mpr fun v hv => (atom_ns_good (List.all_eq_true.mp h v hv)).2 ok u

theorem simple_ns {ok u} {e : Node} (hg : goodW ok u e = true) (hs : isSimpleTargetPart e = true) : ns e = 0 := by
  unfold isSimpleTargetPart at hs
  split at hs
  · exact good_leaf_ns hg (by simp [leaf, Node.isIdent])
  · simp
  · simp
  · cases hs

/-- what splitting a compound-assignment target guarantees -/
def SplitSpec (ok : String → Bool) (u : Bool) (left : Node) (R : (Node × Node) × St) (s : St) : Prop :=
  goodW ok u R.1.1 = true ∧ goodW ok u R.1.2 = true ∧ ns R.1.1 + ns R.1.2 = ns left ∧ TS R.2 s

theorem hoistTargetPart_spec (ok u) (e : Node) (sp : Span) (s : St) (he : goodW ok u e = true) :
    SplitSpec ok u e (hoistTargetPart e sp s) s := by
  unfold hoistTargetPart
  simp only [run_bind]
  have he' : goodW ok u (seqOperand e) = true := by rw [good_seqOperand]; exact he
  rcases getTemporalIdent_cases (seqOperand e) [] sp .expr s with ⟨hl, h⟩ | ⟨hl, n, s', h, ht⟩
  · rw [h]
    simp only [run_pure]
    have := isLit_ns hl
    rw [ns_seqOperand] at this
    exact ⟨he', he', by simp [ns_seqOperand, this], TS.refl s⟩
  · rw [h]
    simp only [List.nil_append, List.getLast?_singleton, run_pure]
    exact ⟨by simp [tempIdent, assignRight, he'], by simp [tempIdent], by simp [tempIdent, assignRight, ns_seqOperand], ht⟩

theorem splitComputedKey_spec (ok u) (csp : Span) (e : Node) (sp : Span) (s : St) (he : goodW ok u e = true) :
    SplitSpec ok u (.other "Computed" csp ["expression"] [e]) (splitComputedKey csp e sp s) s := by
  unfold splitComputedKey
  simp only [run_bind, run_pure]
  have h := hoistTargetPart_spec ok u e sp s he
  generalize hoistTargetPart e sp s = R at h
  obtain ⟨⟨tk, okk⟩, s'⟩ := R
  obtain ⟨h1, h2, h3, h4⟩ := h
  simp only at h1 h2 h3 h4
  exact ⟨by simp [h1], by simp [h2], by simp; omega, h4⟩


theorem propShape_ns {ok u} {p : Node} (hp : propShape p = true) (hg : goodW ok u p = true)
    (hsimple : ∀ csp e, p = .other "Computed" csp ["expression"] [e] → isSimpleTargetPart e = true) : ns p = 0 := by
  unfold propShape at hp
  split at hp
  · simp
  · rename_i csp e
    have := hsimple _ _ rfl
    simp at hg
    simp [simple_ns hg this]
  · simp only [Bool.and_eq_true] at hp
    simp [nsL_atoms _ hp.2]
  · cases hp

theorem splitSpec_same (ok u) (left : Node) (s : St) (hg : goodW ok u left = true) (hn : ns left = 0) :
    SplitSpec ok u left ((left, left), s) s := ⟨hg, hg, by simp [hn], TS.refl s⟩

theorem splitProp_spec (ok u) (prop : Node) (sp : Span) (s : St) (hp : propShape prop = true) (hg : goodW ok u prop = true) :
    SplitSpec ok u prop (splitProp prop sp s) s := by
  unfold splitProp
  split
  · rename_i csp e
    by_cases hs : isSimpleTargetPart e = true
    · simp only [hs, Bool.not_true, Bool.false_eq_true, if_false, run_pure]
      refine splitSpec_same ok u _ s hg ?_
      simp at hg
      simp [simple_ns hg hs]
    · simp only [hs, Bool.not_false, if_true]
      exact splitComputedKey_spec ok u csp e sp s (by simpa using hg)
  · rename_i hne
    simp only [run_pure]
    refine splitSpec_same ok u _ s hg ?_
    exact propShape_ns hp hg (by intro csp e he; exact absurd he (hne csp e))

theorem keyIsSimple_ns {ok u} {prop : Node} (hp : propShape prop = true) (hg : goodW ok u prop = true)
    (hk : keyIsSimple prop = true) : ns prop = 0 := by
  refine propShape_ns hp hg ?_
  intro csp e he
  subst he
  simpa [keyIsSimple] using hk

theorem tshape_not_splittable {e : Node} (ht : tshape e = true) (hs : isSplittableInner e = false) : e.isIdent = true := by
  unfold tshape at ht
  split at ht
  · rfl
  · cases hs
  · exact absurd (show isSplittableInner _ = true from rfl) (hs ▸ Bool.false_ne_true)
  · cases hs
  · cases ht

theorem splitMemberTarget_spec (ok u) (sp : Span) : ∀ (left : Node), tshape left = true → goodW ok u left = true →
    ∀ s, SplitSpec ok u left (splitMemberTarget left sp s) s := by
  apply Node.ind
  intro left ih hts hg s
  unfold tshape at hts
  split at hts
  · -- identifier
    rename_i nm isp
    simp only [splitMemberTarget, run_pure]
    exact splitSpec_same ok u _ s hg (good_leaf_ns hg (by simp [leaf, Node.isIdent]))
  · -- member
    rename_i obj prop msp
    have hg' := hg
    simp only [good_member, Bool.and_eq_true] at hg'
    simp only [splitMemberTarget]
    by_cases hcond : (!isSimpleTargetPart obj || !keyIsSimple prop) = true
    · simp only [hcond, if_true]
      by_cases hrep : (isSimpleTargetPart obj && (keyIsSimple prop || !obj.isIdent)) = true
      · simp only [hrep, if_true, run_bind, run_pure]
        simp only [Bool.and_eq_true] at hrep
        have n0 := simple_ns hg'.1 hrep.1
        have hprop := splitProp_spec ok u prop sp s hts hg'.2
        generalize splitProp prop sp s = R2 at hprop
        obtain ⟨⟨tprop, oprop⟩, s2⟩ := R2
        obtain ⟨b1, b2, b3, b4⟩ := hprop
        simp only at b1 b2 b3 b4
        exact ⟨by simp [hg'.1, b1], by simp [hg'.1, b2], by simp; omega, b4⟩
      · simp only [hrep, Bool.false_eq_true, if_false, run_bind, run_pure]
        have hobj := hoistTargetPart_spec ok u obj sp s hg'.1
        generalize hoistTargetPart obj sp s = R1 at hobj
        obtain ⟨⟨tobj, oobj⟩, s1⟩ := R1
        obtain ⟨a1, a2, a3, a4⟩ := hobj
        simp only at a1 a2 a3 a4
        have hprop := splitProp_spec ok u prop sp s1 hts hg'.2
        generalize splitProp prop sp s1 = R2 at hprop
        obtain ⟨⟨tprop, oprop⟩, s2⟩ := R2
        obtain ⟨b1, b2, b3, b4⟩ := hprop
        simp only at b1 b2 b3 b4
        exact ⟨by simp [a1, b1], by simp [a2, b2], by simp; omega, TS.trans b4 a4⟩
    · simp only [hcond, Bool.false_eq_true, if_false, run_pure]
      simp only [Bool.or_eq_true, Bool.not_eq_true', not_or, Bool.not_eq_false] at hcond
      refine splitSpec_same ok u _ s hg ?_
      simp [simple_ns hg'.1 hcond.1, keyIsSimple_ns hts hg'.2 hcond.2]
  · -- super property
    rename_i ssp k2 sp2 n2 prop
    have hg' := hg
    simp only [good_other, goodL_cons, goodL_nil, Bool.and_true, Bool.and_eq_true] at hg'
    simp only [splitMemberTarget]
    by_cases hk : keyIsSimple prop = true
    · simp only [hk, Bool.not_true, Bool.false_eq_true, if_false, run_pure]
      refine splitSpec_same ok u _ s hg ?_
      simp [keyIsSimple_ns hts hg'.2 hk]
    · simp only [hk, Bool.not_false, if_true, run_bind, run_pure]
      have hprop := splitProp_spec ok u prop sp s hts hg'.2
      generalize splitProp prop sp s = R2 at hprop
      obtain ⟨⟨tprop, oprop⟩, s2⟩ := R2
      obtain ⟨b1, b2, b3, b4⟩ := hprop
      simp only at b1 b2 b3 b4
      exact ⟨by simp [b1], by simp [b2], by simp; omega, b4⟩
  · -- parenthesised
    rename_i e psp
    simp only [splitMemberTarget]
    by_cases hsi : isSplittableInner e = true
    · simp only [hsi, if_true, run_bind, run_pure]
      have h := ih e (by simp [kids]) hts (by simpa using hg) s
      generalize splitMemberTarget e sp s = R at h
      obtain ⟨⟨t, o⟩, s'⟩ := R
      obtain ⟨h1, h2, h3, h4⟩ := h
      simp only at h1 h2 h3 h4
      exact ⟨by simp [h1], h2, by simp; omega, h4⟩
    · simp only [hsi, Bool.false_eq_true, if_false, run_pure]
      refine splitSpec_same ok u _ s hg ?_
      rw [ns_paren]
      rw [good_paren] at hg
      exact good_leaf_ns hg (Bool.or_eq_true_iff.mpr (Or.inl (tshape_not_splittable hts (Bool.not_eq_true _ ▸ hsi))))
  · cases hts


theorem toDdAssign_spec (ok u) (cfg : Config) (op : String) (left r : Node) (sp : Span) (s : St)
    (hl : goodW ok u left = true) (hr : goodW ok u r = true) (hts : tshape left = true)
    (hok : ok cfg.plusName = true) :
    TrSpec ok u (ns left + ns r) (toDdAssign cfg (.assign op left r sp) s) s := by
  simp only [toDdAssign]
  by_cases hp : isPatternTarget left = true
  · simp only [hp, if_true, run_pure]
    exact ⟨TS.refl s, by intro e' h; cases h⟩
  · simp only [hp, Bool.false_eq_true, if_false, run_bind]
    have hgr : goodW ok u (assignRhs r) = true := by unfold assignRhs; split <;> simp_all
    have hnr : ns (assignRhs r) = ns r := by unfold assignRhs; split <;> simp
    have h1 := splitMemberTarget_spec ok u sp left hts hl s
    generalize splitMemberTarget left sp s = R1 at h1
    obtain ⟨⟨target, operand⟩, s1⟩ := R1
    obtain ⟨a1, a2, a3, a4⟩ := h1
    simp only at a1 a2 a3 a4
    have h2 := toDdBinary_spec ok u cfg "+" operand (assignRhs r) sp s1 a2 hgr hok
    generalize toDdBinary cfg (.bin "+" operand (assignRhs r) sp) s1 = R2 at h2
    obtain ⟨res, s2⟩ := R2
    obtain ⟨b1, b2⟩ := h2
    simp only at b1 b2
    cases res with
    | none => simp only [run_pure]; exact ⟨TS.trans b1 a4, by intro e' h; cases h⟩
    | some e1 =>
      obtain ⟨c1, c2⟩ := b2 e1 rfl
      simp only [run_pure]
      refine ⟨TS.trans b1 a4, ?_⟩
      intro e' he
      simp only [Option.some.injEq] at he
      subst he
      exact ⟨by simp [a1, c1], by simp; omega⟩

end IastModel
