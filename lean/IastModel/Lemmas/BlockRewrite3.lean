import IastModel.Lemmas.PushNoBlock
namespace IastModel
open Node

theorem BRL.append_inv {xs ys ks : List Node} (h : BRL (xs ++ ys) ks) :
    BRL xs (ks.take xs.length) ∧ BRL ys (ks.drop xs.length) := by
  induction xs generalizing ks with
  | nil => exact ⟨by simpa using BRL.nil, by simpa using h⟩
  | cons x xs ih =>
    obtain ⟨b, bs, rfl, hb, hs⟩ := BRL.cons_inv h
    obtain ⟨h1, h2⟩ := ih hs
    exact ⟨by simpa using BRL.cons hb h1, by simpa using h2⟩

theorem BRL.append {a b c d : List Node} (h1 : BRL a b) (h2 : BRL c d) : BRL (a ++ c) (b ++ d) := by
  induction a generalizing b with
  | nil => rw [BRL.nil_inv h1]; simpa using h2
  | cons x xs ih =>
    obtain ⟨y, ys, rfl, hy, hys⟩ := BRL.cons_inv h1
    exact BRL.cons hy (ih hys)

theorem BR.arg_inv {s : Option Span} {e b : Node} (h : BR (.arg s e) b) : ∃ e', b = .arg s e' ∧ BR e e' := by
  obtain ⟨ks', rfl, hk⟩ := h.inv rfl
  obtain ⟨e', r, rfl, he, hr⟩ := BRL.cons_inv hk
  exact ⟨e', by simp [withKids], he⟩

theorem BR.bin_inv {op : String} {l r b : Node} {sp : Span} (h : BR (.bin op l r sp) b) :
    ∃ l' r', b = .bin op l' r' sp ∧ BR l l' ∧ BR r r' := by
  obtain ⟨ks', rfl, hk⟩ := h.inv rfl
  obtain ⟨l', t, rfl, hl, ht⟩ := BRL.cons_inv hk
  obtain ⟨r', t2, rfl, hr, _⟩ := BRL.cons_inv ht
  exact ⟨l', r', by simp [withKids], hl, hr⟩

theorem BR.member_inv {o p b : Node} {sp : Span} (h : BR (.member o p sp) b) :
    ∃ o' p', b = .member o' p' sp ∧ BR o o' ∧ BR p p' := by
  obtain ⟨ks', rfl, hk⟩ := h.inv rfl
  obtain ⟨l', t, rfl, hl, ht⟩ := BRL.cons_inv hk
  obtain ⟨r', t2, rfl, hr, _⟩ := BRL.cons_inv ht
  exact ⟨l', r', by simp [withKids], hl, hr⟩

theorem BR.call_inv {c b : Node} {as : List Node} {sp : Span} (h : BR (.call c as sp) b) :
    ∃ c' as', b = .call c' as' sp ∧ BR c c' ∧ BRL as as' := by
  obtain ⟨ks', rfl, hk⟩ := h.inv rfl
  obtain ⟨c', as', rfl, hc, has⟩ := BRL.cons_inv hk
  exact ⟨c', as', by simp [withKids], hc, has⟩

theorem BR.tpl_inv {es qs : List Node} {b : Node} {sp : Span} (h : BR (.tpl es qs sp) b) :
    ∃ es' qs', b = .tpl es' qs' sp ∧ BRL es es' ∧ BRL qs qs' := by
  obtain ⟨ks', rfl, hk⟩ := h.inv rfl
  obtain ⟨h1, h2⟩ := BRL.append_inv hk
  exact ⟨_, _, rfl, h1, h2⟩

theorem BR.array_inv {es : List Node} {b : Node} {sp : Span} (h : BR (.array es sp) b) :
    ∃ es', b = .array es' sp ∧ BRL es es' := by
  obtain ⟨ks', rfl, hk⟩ := h.inv rfl
  exact ⟨ks', rfl, hk⟩

theorem BR.isArgNode {a b : Node} (h : BR a b) : isArgNode b = isArgNode a :=
  h.head fun n _ => by cases n <;> rfl

theorem BR.isSpreadArg {a b : Node} (h : BR a b) : isSpreadArg b = isSpreadArg a :=
  h.head fun n _ => by
    cases n with
    | arg s => cases s <;> rfl
    | _ => rfl

theorem isArgNode_inv {a : Node} (h : isArgNode a = true) : ∃ s e, a = .arg s e := by
  cases a with
  | arg s e => exact ⟨s, e, rfl⟩
  | _ => cases h

theorem argOf_of_not_arg {a : Node} (h : isArgNode a = false) : argOf a = a := by
  cases a with
  | arg => cases h
  | _ => rfl

theorem applyElem_of_not_arg {a : Node} (h : isArgNode a = false) : applyElem a = .arg none voidZero := by
  cases a with
  | arg => cases h
  | _ => rfl

theorem BR.argOf {a b : Node} (h : BR a b) : BR (argOf a) (argOf b) := by
  cases ha : IastModel.isArgNode a with
  | true =>
    obtain ⟨s, e, rfl⟩ := isArgNode_inv ha
    obtain ⟨e', rfl, he⟩ := h.arg_inv
    exact he
  | false => rw [argOf_of_not_arg ha, argOf_of_not_arg (h.isArgNode.trans ha)]; exact h

theorem isPlusSum_bin (op : String) (l r : Node) (sp : Span) : isPlusSum (.bin op l r sp) = (op == "+") := by
  by_cases hop : op = "+"
  · subst hop; rfl
  · have : (op == "+") = false := by simpa using hop
    rw [this]
    unfold IastModel.isPlusSum
    split
    · rename_i h; cases h; exact absurd rfl hop
    · rfl

theorem BR.isPlusSum {a b : Node} (h : BR a b) : isPlusSum b = isPlusSum a :=
  h.head fun n ks => by
    cases n with
    | bin => exact (isPlusSum_bin ..).trans (isPlusSum_bin ..).symm
    | _ => rfl

theorem BR.isArrayNode {a b : Node} (h : BR a b) : isArrayNode b = isArrayNode a :=
  h.head fun n _ => by cases n <;> rfl

theorem BR.isLiteralSum : ∀ (a : Node) {b : Node}, BR a b → isLiteralSum b = isLiteralSum a := by
  apply Node.ind
  intro a ih b h
  cases a with
  | bin op l r sp =>
    obtain ⟨l', r', rfl, hl, hr⟩ := h.bin_inv
    simp only [IastModel.isLiteralSum]
    rw [ih l (by simp [kids]) hl, ih r (by simp [kids]) hr]
  | block ss sp => cases h with
    | blk => rfl
    | node n ks' hb _ _ => simp [isBlockNode] at hb
  | _ =>
    obtain ⟨ks', rfl, _⟩ := h.inv rfl
    rfl

theorem BR.sumArg {a b : Node} (h : BR a b) : sumArg b = sumArg a := by
  have := h.argOf
  simp only [IastModel.sumArg, isNonLiteralSum_eq, nlSum, this.isPlusSum, BR.isLiteralSum _ this]

theorem BRL.any_sumArg {xs ys : List Node} (h : BRL xs ys) : ys.any sumArg = xs.any sumArg := by
  induction xs generalizing ys with
  | nil => rw [BRL.nil_inv h]
  | cons x xs ih =>
    obtain ⟨y, ys', rfl, hy, hys⟩ := BRL.cons_inv h
    simp only [List.any_cons, hy.sumArg, ih hys]

theorem BRL.callArgs {xs ys : List Node} (h : BRL xs ys) : BRL (callArgs xs) (callArgs ys) := by
  induction xs generalizing ys with
  | nil => rw [BRL.nil_inv h]; exact BRL.nil
  | cons x xs ih =>
    obtain ⟨y, ys', rfl, hy, hys⟩ := BRL.cons_inv h
    simp only [IastModel.callArgs, List.filter_cons, hy.isArgNode]
    split
    · exact BRL.cons hy (ih hys)
    · exact ih hys

theorem BRL.map {f : Node → Node} (hf : ∀ a b, BR a b → BR (f a) (f b)) {xs ys : List Node} (h : BRL xs ys) :
    BRL (xs.map f) (ys.map f) := by
  induction xs generalizing ys with
  | nil => rw [BRL.nil_inv h]; exact BRL.nil
  | cons x xs ih =>
    obtain ⟨y, ys', rfl, hy, hys⟩ := BRL.cons_inv h
    exact BRL.cons (hf _ _ hy) (ih hys)

theorem BR.arg_mk (s : Option Span) {e e' : Node} (h : BR e e') : BR (.arg s e) (.arg s e') := by
  have := BR.node' (n := .arg s e) (ks' := [e']) rfl (BRL.cons h BRL.nil)
  simpa [withKids] using this

theorem BR.applyElem {a b : Node} (h : BR a b) : BR (applyElem a) (applyElem b) := by
  cases ha : IastModel.isArgNode a with
  | true =>
    obtain ⟨s, e, rfl⟩ := isArgNode_inv ha
    obtain ⟨e', rfl, he⟩ := h.arg_inv
    exact BR.arg_mk s he
  | false => rw [applyElem_of_not_arg ha, applyElem_of_not_arg (h.isArgNode.trans ha)]; exact BR.refl _

theorem expandApplyArg_of_not_arg {a : Node} (h : isArgNode a = false) : expandApplyArg a = [a] := by
  unfold IastModel.expandApplyArg; split
  · cases h
  · rfl

theorem BR.expandApplyArg {a b : Node} (h : BR a b) : BRL (expandApplyArg a) (expandApplyArg b) := by
  cases ha : IastModel.isArgNode a with
  | true =>
    obtain ⟨s, e, rfl⟩ := isArgNode_inv ha
    obtain ⟨e', rfl, he⟩ := h.arg_inv
    cases hA : IastModel.isArrayNode e with
    | true =>
      unfold IastModel.isArrayNode at hA; split at hA
      · obtain ⟨els', rfl, hels⟩ := he.array_inv
        exact BRL.map (fun _ _ => BR.applyElem) hels
      · cases hA
    | false =>
      rw [expandApplyArg_notArray hA, expandApplyArg_notArray (he.isArrayNode.trans hA)]
      exact BRL.cons h BRL.nil
  | false =>
    rw [expandApplyArg_of_not_arg ha, expandApplyArg_of_not_arg (h.isArgNode.trans ha)]
    exact BRL.cons h BRL.nil

theorem BRL.flatMap {f : Node → List Node} (hf : ∀ a b, BR a b → BRL (f a) (f b)) {xs ys : List Node} (h : BRL xs ys) :
    BRL (xs.map f).flatten (ys.map f).flatten := by
  induction xs generalizing ys with
  | nil => rw [BRL.nil_inv h]; exact BRL.nil
  | cons x xs ih =>
    obtain ⟨y, ys', rfl, hy, hys⟩ := BRL.cons_inv h
    simp only [List.map_cons, List.flatten_cons]
    exact BRL.append (hf _ _ hy) (ih hys)

/-- a mirrored argument list stays mirrored when blocks inside the mirrored operands are rewritten: the
    copies passed to the hook contain no block, so an operand equal to its copy contains none either -/
theorem Mir.stable {P exp exp' : List Node} (hm : Mir P exp) (hp : noBlkL P = true) (hb : BRL exp exp') : Mir P exp' := by
  rcases hm with hm | hm
  · have : noBlkL exp = true := eqNSL_all hm (fun x _ y => eqNS_noBlk x y) hp
    rw [BRL_noBlk this hb]; exact Or.inl hm
  · right; rw [hb.any_sumArg]; exact hm

end IastModel
