import IastModel.Lemmas.CovAssign
namespace IastModel
open Node

theorem rcwmTail_res (dst method : String) (identReplacement memberExpr expr callee : Node) (cargs asg0 : List Node)
    (csp : Span) (coa : Option String) (s0 : St) :
    ∃ first args asg, (rcwmTail dst method identReplacement memberExpr expr callee cargs asg0 csp coa s0).1 =
      some (ddParen first args asg dst csp, method) := by
  unfold rcwmTail
  simp only [run_bind, run_pure]
  exact ⟨_, _, _, rfl⟩

theorem replaceCallWithMember_res (cfg : Config) (expr : Node) (method : String) (msp : Span)
    (callee : Node) (cargs : List Node) (csp : Span) (memberOpt : Option Node) (coa : Option String) (s : St)
    (csi : CsiMethod) (hg : cfg.get method = some csi) :
    ∃ first args asg, (replaceCallWithMember cfg expr method msp callee cargs csp memberOpt coa s).1 =
      some (ddParen first args asg csi.dst csp, method) := by
  rw [replaceCallWithMember_unfold _ _ _ _ _ _ _ _ _ _ csi hg]
  exact rcwmTail_res ..

/-- receivers for which `recv.m(..)` is instrumented (the decision of `to_dd_call_expr` on the receiver) -/
def covM (cfg : Config) (m : String) (obj : Node) : Bool :=
  match obj with
  | .lit .. => cfg.allowsLiteralCallers m
  | .ident .. => true
  | .call .. => true
  | .paren .. => true
  | .array .. => true
  | .member .. => !memberPropIsPrototype obj
  | _ => false

/-- `recv.m(..)` with `m` configured (and not `call` / `apply`) and `recv` of such a kind: the call is replaced by
    the hook configured for `m`, at the span of the call -/
theorem toDdCall_covered (cfg : Config) (obj : Node) (m : String) (msp msp0 : Span) (cargs : List Node) (csp : Span) (s : St)
    (csi : CsiMethod) (hg : cfg.get m = some csi) (hca : isCallOrApply m = false) (hc : covM cfg m obj = true) :
    ∃ first args asg, (toDdCall cfg (.call (.member obj (.pname m msp) msp0) cargs csp) s).1 =
      some (ddParen first args asg csi.dst csp, m) := by
  have key := replaceCallWithMember_res cfg obj m msp (.member obj (.pname m msp) msp0) cargs csp none none s csi hg
  unfold covM at hc
  unfold toDdCall
  split at hc
  · dsimp only; rw [if_pos hc]; exact key
  · exact key
  · exact key
  · exact key
  · exact key
  · dsimp only; rw [hca, if_neg Bool.false_ne_true, if_pos hc]; exact key
  · cases hc

end IastModel
