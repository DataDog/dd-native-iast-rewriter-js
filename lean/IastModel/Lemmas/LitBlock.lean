import IastModel.Lemmas.LitCount
import IastModel.Rewriter.Literals
/-
  C14: the operation visitor, the block visitor and the program traversal keep every string-literal node
  (possibly in several copies, since operands are cloned into hook arguments) and add none: `LZ` between
  the counts of any one literal node, an instance of the counting theorems at `isStrLitAt`.
-/
namespace IastModel
open Node

theorem isStrLitAt_withKids (lv : String) (sp0 : Span) (n : Node) (ks : List Node) :
    isStrLitAt lv sp0 (n.withKids ks) = isStrLitAt lv sp0 n := by
  cases n <;> rfl

/-- the operation visitor keeps every string-literal node (possibly in several copies) and adds none -/
theorem visit_L (lv : String) (sp0 : Span) (cfg : Config) (ok : String → Bool) (hcfg : CfgOk ok cfg) :
    ∀ (f : Nat) (root : Bool) (n : Node) (s : St), ns n = 0 → targetsOk n = true → StOk s →
      LZ (cl lv sp0 n) (cl lv sp0 (visit cfg f root n s).1) :=
  visit_rel_w LZ.refl LZ.trans LZ.add (scaf_strLit lv sp0) cfg ok hcfg
    (fun _ _ n _ _ _ _ _ => isStrLitAt_withKids lv sp0 n _)
    (fun n => by
      obtain ⟨k, h, hk⟩ := (scaf_strLit lv sp0).c_toDdArrow (fun _ _ _ _ _ => rfl) n
      rw [h, hk fun _ _ => rfl]; exact LZ.refl _)
    (fun op l r sp s e' _ he => by
      obtain ⟨hn, h⟩ := toDdBinary_cnt (scaf_strLit lv sp0) cfg op l r sp s e' he
      rw [hookW_strLit lv sp0 _ hn, ← (scaf_strLit lv sp0).c_bin op l r sp] at h
      exact h.lz)
    (fun op l r sp s e' _ he => by
      obtain ⟨hn, κ, h, hk, _⟩ := toDdAssign_cnt (scaf_strLit lv sp0) cfg op l r sp s e' he
      rw [hookW_strLit lv sp0 _ hn] at h
      exact LZ.of_copies (by omega) hk)
    (fun es qs sp s e' he => by
      obtain ⟨hn, h⟩ := toDdTpl_cnt (scaf_strLit lv sp0) cfg es qs sp s e' he
      rw [hookW_strLit lv sp0 _ hn] at h
      exact h.lz)
    (fun c as sp s e' tag hn he => by
      obtain ⟨⟨_, _, hm⟩, h⟩ := toDdCall_cnt (scaf_strLit lv sp0) cfg c as sp s hn e' tag he
      rw [hookW_strLit lv sp0 _ hm] at h
      exact h.lz)

theorem cl_insertPrologue (lv : String) (sp0 : Span) (pro : List Node) (k : String) (sp : Span) (ns' : List String) (body vs : List Node) :
    cl lv sp0 (insertPrologue pro (.other k sp ("body" :: ns') (.arr body :: vs))) =
      cl lv sp0 (.other k sp ("body" :: ns') (.arr body :: vs)) + clL lv sp0 pro :=
  count_insertPrologue (isStrLitAt lv sp0) pro k sp ns' body vs (fun _ => rfl) (fun _ => rfl)

/-- the two string literals of the prologue (`'undefined'`, `'this'`) are shorter than the report window -/
theorem prologue_cl (lv : String) (sp0 : Span) (dsts : List String) (hw : litLengthOk lv = true) :
    clL lv sp0 (prologue dsts) = 0 := by
  have h1 : ("this" == lv) = false := by
    cases h : "this" == lv
    · rfl
    · rw [← eq_of_beq h] at hw; revert hw; decide +kernel
  have h2 : ("undefined" == lv) = false := by
    cases h : "undefined" == lv
    · rfl
    · rw [← eq_of_beq h] at hw; revert hw; decide +kernel
  have ht : ∀ l : List String, countL (isStrLitAt lv sp0) (l.map fun k =>
      Node.other "KeyValueProperty" pd ["key", "value"] [.pname k pd, .ident (.user "noop") pd]) = 0 := by
    intro l
    induction l with
    | nil => rfl
    | cons x xs ih =>
      simp only [List.map_cons, countL_cons, ih, count_other, countL_nil, count_pname, count_ident, isStrLitAt,
        Bool.false_eq_true, if_false]
  have h3 : ("NumericLiteral" == "StringLiteral") = false := by decide
  show countL (isStrLitAt lv sp0) (prologue dsts) = 0
  simp only [prologue, puid, countL_cons, countL_nil, count_other, count_ifStmt, count_exprStmt, count_bin, count_unary,
    count_ident, count_lit, count_paren, count_call, count_arg, count_seq, count_member, count_pname, count_assign,
    count_arr, count_atom, count_block, count_arrow, ht, isStrLitAt, h1, h2, Bool.false_eq_true, if_false, Bool.and_false,
    Bool.false_and, Nat.add_zero, h3]

/-- **Instrumentation neither adds nor removes a string-literal node.**  For every configuration, fuel and
    program (hypotheses as in `master`), unless the rewrite is refused, the output is `p1` or `p1` with the
    prologue inserted, where for every value and span the literal node with that value at that span occurs
    in `p1` exactly when it occurs in the source (it may occur in several copies: operands are cloned into
    hook arguments with their spans, which is what the collector's set-by-span removes again). -/
theorem literal_nodes_preserved_master (cfg : Config) (fuel : Nat) (p : Node) (h0 : ns p = 0) (ht : targetsOk p = true)
    (hnc : (transformProgram cfg fuel p).status ≠ .cancelled) :
    ∃ p1, (∀ lv sp0, LZ (cl lv sp0 p) (cl lv sp0 p1)) ∧
      (transformProgram cfg fuel p).out =
        (if (transformProgram cfg fuel p).status = .modified then insertPrologue (prologue cfg.dsts) p1 else p1) := by
  obtain ⟨hfin, hst, _, hout, _⟩ := transformProgram_run cfg fuel p hnc
  refine ⟨_, fun lv sp0 => ?_, by rw [hout, hst]⟩
  have hcfg := cfgOk_dsts cfg
  exact program_rel (R := fun _ _ a b => LZ a b) (CRel.ofWeights LZ.refl LZ.trans LZ.add) cfg (okCfg cfg) hcfg
    (visit_L lv sp0 cfg (okCfg cfg) hcfg)
    (letDecl_cnt (fun _ _ _ _ _ => rfl) (fun _ => rfl) (fun _ => rfl) (fun _ _ => rfl)) (fun _ _ => rfl)
    (fun _ _ _ _ => rfl) (fun _ _ n _ _ _ _ _ _ => isStrLitAt_withKids lv sp0 n _)
    (fun _ prog _ _ _ => isStrLitAt_withKids lv sp0 prog _) fuel p h0 ht hfin

end IastModel
