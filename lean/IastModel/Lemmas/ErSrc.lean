import IastModel.Lemmas.ErBase
namespace IastModel
open Node

theorem not_temp_of_src {n : Node} (h : srcOk n = true) : tempTarget? n = none := by
  cases n with
  | ident nm sp =>
    cases nm with
    | user x => rfl
    | temp k => have := srcOk_self h; simp [srcNode] at this
  | _ => rfl

theorem calleeKind_src {c : Node} (h : srcOk c = true) : calleeKind c = .plain := by
  unfold calleeKind
  split
  · rename_i ns isp nm psp msp
    have h1 := srcOk_self (srcOk_kids h (.ident (.user ns) isp) (by simp [kids]))
    simp only [srcNode, bne_iff_ne, ne_eq] at h1
    simp [h1]
  · rename_i t isp ca casp msp
    have h1 := srcOk_self (srcOk_kids h (.ident (.temp t) isp) (by simp [kids]))
    simp [srcNode] at h1
  · rfl

theorem injectedLet_src {s : Node} (h : srcOk s = true) : injectedLet? s = none := by
  unfold injectedLet?
  split
  · rename_i sp x decls
    simp only
    split
    · rename_i hc
      exfalso
      simp only [Bool.and_eq_true, Bool.not_eq_true', List.isEmpty_eq_false_iff] at hc
      obtain ⟨hne, hall⟩ := hc
      cases decls with
      | nil => simp at hne
      | cons d ds =>
        simp only [List.map_cons, List.all_cons, Bool.and_eq_true] at hall
        have hd := hall.1
        have hsd : srcOk d = true := by
          have h1 := srcOk_kids h (.arr (d :: ds)) (by simp [kids])
          exact srcOk_kids h1 d (by simp [kids])
        unfold declaratorTemp? at hd
        split at hd
        · rename_i n isp z
          have := srcOk_self (srcOk_kids hsd (.ident (.temp n) isp) (by simp [kids]))
          simp [srcNode] at this
        · simp at hd
    · rfl
  · rfl

theorem injectedLetAt_src (sp : Span) (ss : List Node) (h : ∀ k ∈ ss, srcOk k = true) : injectedLetAt sp ss = none := by
  unfold injectedLetAt
  rw [List.findIdx?_eq_none_iff]
  intro s hs
  simp [injectedLet_src (h s hs)]

theorem isLoweredGuard_src (t c a : Node) (sp : Span) (h : sp.isDummy = false) : isLoweredGuard (.cond t c a sp) = none := by
  unfold isLoweredGuard
  split
  · rename_i heq
    simp only [cond.injEq] at heq
    obtain ⟨_, _, _, rfl⟩ := heq
    simp [h]
  · rfl

/-- constructors on which `erase` simply recurses into the children -/
def structK : Node → Bool
  | .atom _ | .lit .. | .pname .. => true
  | .arr _ | .obj .. | .other .. | .bin .. | .member .. | .optChain .. | .optCall .. | .unary .. | .array ..
  | .ifStmt .. | .exprStmt .. => true
  | _ => false

theorem erase_struct (n : Node) (h : structK n = true) (σ : Env) :
    erase σ n = (n.withKids (eraseL σ n.kids).1, (eraseL σ n.kids).2) := by
  cases n <;> first | exact Bool.noConfusion h | simp [erase, kids, withKids, eraseL]

/-- on a well-formed source tree `erase` changes nothing and binds nothing -/
theorem erase_src : ∀ n : Node, srcOk n = true → ∀ σ, erase σ n = (n, σ) := by
  apply Node.ind
  intro n ih hs σ
  have hk : ∀ k ∈ n.kids, ∀ σ, erase σ k = (k, σ) := fun k hk => ih k hk (srcOk_kids hs k hk)
  have hsk := srcOk_kids hs
  have h0 := srcOk_self hs
  by_cases hst : structK n = true
  · rw [erase_struct n hst, eraseL_id n.kids hk, Node.withKids_kids]
  cases n with
  | ident nm sp =>
    cases nm with
    | user x => rfl
    | temp k => simp [srcNode] at h0
  | assign op l r sp =>
    simp only [erase]
    rw [not_temp_of_src (hsk l (by simp [kids]))]
    simp only
    rw [hk l (by simp [kids])]; simp only
    rw [hk r (by simp [kids])]; simp only
    simp only [srcNode, Bool.and_eq_true, Bool.not_eq_true'] at h0
    have h2 := h0.2
    unfold looksLowered at h2
    unfold resugarAssign
    split
    · rename_i hop
      simp only [hop, Bool.true_and] at h2
      split
      · rename_i a b bsp
        simp only at h2
        simp [h2]
      · rfl
    · rfl
  | tpl es qs sp =>
    simp only [erase]
    rw [eraseL_id es (fun k hk' => hk k (by simp [kids, hk']))]
  | call c as sp =>
    simp only [erase]
    rw [calleeKind_src (hsk c (by simp [kids]))]
    simp only
    rw [hk c (by simp [kids])]; simp only
    rw [eraseL_id as (fun k hk' => hk k (by simp [kids, hk']))]
  | arg s e => simp only [erase]; rw [hk e (by simp [kids])]
  | arrow ps b at' sp =>
    simp only [erase]
    rw [eraseL_id ps (fun k hk' => hk k (by simp [kids, hk']))]; simp only
    rw [hk b (by simp [kids])]; simp only
    simp only [srcNode, Bool.not_eq_true'] at h0
    unfold looksInjectedBody at h0
    split
    · rename_i e' rsp bsp
      simp only at h0
      simp [h0]
    · rfl
  | paren e sp =>
    simp only [erase]
    rw [hk e (by simp [kids])]; simp only
    simp only [srcNode, Bool.and_eq_true, Bool.not_eq_true'] at h0
    have : (e.span == sp) = false := by have := h0.2; simpa [bne] using this
    simp [this]
  | seq es sp =>
    simp only [erase]
    rw [headIsTempAssign_src es hsk]
    simp only [Bool.false_eq_true, if_false]
    rw [eraseL_id es hk]
  | cond t c a sp =>
    simp only [erase]
    simp only [srcNode, Bool.not_eq_true'] at h0
    rw [isLoweredGuard_src t c a sp h0]
    simp only
    rw [hk t (by simp [kids])]; simp only
    rw [hk c (by simp [kids])]; simp only
    rw [hk a (by simp [kids])]
  | block ss sp =>
    simp only [erase]
    rw [eraseL_id ss hk]
    simp only [injectedLetAt_src sp ss hsk, dropAt]
  | _ => exact absurd rfl hst

theorem eraseL_src (l : List Node) (h : ∀ k ∈ l, srcOk k = true) (σ : Env) : eraseL σ l = (l, σ) :=
  eraseL_id l (fun k hk σ => erase_src k (h k hk) σ) σ

end IastModel
