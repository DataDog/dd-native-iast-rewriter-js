import IastModel.Lemmas.CountAssign
/-
  The optional-chain lowering under an arbitrary counter: what a link hoists into a temporary arrives in
  the lowering's assignment list, so the lowered expression weighs what the chain did.
-/
namespace IastModel
open Node

/-- nothing is hoisted by the optional-chain lowering without a guard identifier being recorded -/
def OcInv (oc : OcSt) : Prop := oc.assignments = [] ∨ oc.newIdent.isSome = true

def isBA : Node → Bool
  | .block .. => true
  | _ => false

theorem toDdCond_ba (cfg : Config) (fuel : Nat) (e : Node) (s : St) (h : isBA e = false) :
    isBA (toDdCond cfg fuel e s).1.1 = false ∧ ∀ r, (toDdCond cfg fuel e s).1.2 = some r → isBA r = false :=
  toDdCond_keeps_false (fun r hr => by cases r <;> first | rfl | cases hr) cfg fuel e s h

/-- the visited link together with the assignments hoisted so far weighs what it did before -/
def OcPostC (p : Node → Bool) (n : Node) (oc : OcSt) (R : (Node × OcSt) × St) : Prop :=
  count p R.1.1 + countL p R.1.2.assignments = count p n + countL p oc.assignments ∧ OcInv R.1.2

section
variable {p : Node → Bool} (hp : Scaf p)
include hp

theorem getCallFromBaseCall_cnt (callee : Node) (args : List Node) (csp : Span) (optional : Bool) (oc : OcSt) (s : St)
    (hns : ns callee = 0) (hi : OcInv oc) :
    let R := getCallFromBaseCall callee args optional oc s
    OcInv R.1.2 ∧
    (R.1.1 = none → R.1.2 = oc) ∧
    (∀ r, R.1.1 = some r →
      count p r + countL p R.1.2.assignments = count p (.optCall callee args csp) + countL p oc.assignments) := by
  have hu : ∀ {c as sp}, hookName? (.call c as sp) = none →
      (if p (.call c as sp) then 1 else 0) = if p (.optCall callee args csp) then 1 else 0 :=
    fun h => by rw [hp.optCall callee args csp h]
  rcases getCallFromBaseCall_shape callee args optional oc s with h | ⟨_, h⟩ | ⟨mobj, mprop, msp, t0, t1, s', rfl, _, h⟩ |
      ⟨t0, s', _, h⟩ <;> rw [h] <;> dsimp only
  · exact ⟨hi, fun _ => rfl, fun r hr => (nomatch hr)⟩
  · refine ⟨hi, fun hr => (nomatch hr), fun r hr => ?_⟩
    cases hr
    rw [count_call, count_optCall, hu (hookName?_none_of_ns0 _ _ _ hns)]
  · refine ⟨Or.inr rfl, fun hr => (nomatch hr), fun r hr => ?_⟩
    cases hr
    rw [count_call, count_optCall, hu (hookName?_temp_member t1 _ _ _ _)]
    simp only [countL_append, countL_cons, countL_nil, tempIdent, hp.c_tempAssign, hp.c_arg, hp.c_temp, hp.c_member,
      hp.c_pname]
    omega
  · refine ⟨Or.inr rfl, fun hr => (nomatch hr), fun r hr => ?_⟩
    cases hr
    rw [count_call, count_optCall, hu (c := tempIdent t0) rfl]
    simp only [countL_append, countL_cons, countL_nil, tempIdent, hp.c_tempAssign, hp.c_temp]
    omega

theorem getMemberFromBaseMember_cnt (obj prop : Node) (msp : Span) (optional : Bool) (oc : OcSt) (s : St) (hi : OcInv oc) :
    let R := getMemberFromBaseMember obj prop msp optional oc s
    OcInv R.1.2 ∧
    (R.1.1 = none → R.1.2 = oc) ∧
    (∀ r, R.1.1 = some r →
      count p r + countL p R.1.2.assignments = count p (.member obj prop msp) + countL p oc.assignments) := by
  rcases getMemberFromBaseMember_shape obj prop msp optional oc s with h | ⟨_, h⟩ | ⟨t, s', _, h⟩ <;> rw [h] <;> dsimp only
  · exact ⟨hi, fun _ => rfl, fun r hr => (nomatch hr)⟩
  · exact ⟨hi, fun hr => (nomatch hr), fun r hr => by cases hr; rfl⟩
  · refine ⟨Or.inr rfl, fun hr => (nomatch hr), fun r hr => ?_⟩
    cases hr
    simp only [countL_append, countL_cons, countL_nil, tempIdent, hp.c_tempAssign, hp.c_temp, hp.c_member]
    omega

theorem ocSpine_cnt (v : Node → OcM Node)
    (hv : ∀ e oc s, ns e = 0 → OcZ oc → OcInv oc → OcPostC p e oc (v e oc s) ∧ OcPost (v e oc s) s)
    (e : Node) (oc : OcSt) (s : St) (h0 : ns e = 0) (hz : OcZ oc) (hi : OcInv oc) :
    OcPostC p e oc (ocSpine v e oc s) := by
  unfold ocSpine
  split
  · rename_i o callee args csp sp
    simp only [ns_optChain, ns_optCall] at h0
    simp only [oc_bind, oc_pure]
    obtain ⟨h1, h2⟩ := (hv callee oc s (by omega) hz hi).1
    exact ⟨by simp only [hp.c_optChain, count_optCall, hp.optCall _ args csp (c' := tempIdent 0) (as' := []) (sp' := csp) rfl,
      ] at h1 ⊢; omega, h2⟩
  · rename_i o obj prop msp sp
    simp only [ns_optChain, ns_member] at h0
    simp only [oc_bind, oc_pure]
    obtain ⟨h1, h2⟩ := (hv obj oc s (by omega) hz hi).1
    exact ⟨by simp only [hp.c_optChain, hp.c_member] at h1 ⊢; omega, h2⟩
  · rename_i callee args sp
    simp only [ns_call] at h0
    split
    · exact ⟨rfl, hi⟩
    · simp only [oc_bind, oc_pure]
      obtain ⟨⟨h1, h2⟩, hz'⟩ := hv callee oc s (by omega) hz hi
      refine ⟨?_, h2⟩
      rw [count_call, count_call,
        hp.call (hookName?_none_of_ns0 _ args sp hz'.1) (hookName?_none_of_ns0 callee args sp (by omega))]
      dsimp only at h1 ⊢
      omega
  · rename_i obj prop sp
    simp only [ns_member] at h0
    simp only [oc_bind, oc_pure]
    obtain ⟨h1, h2⟩ := (hv obj oc s (by omega) hz hi).1
    exact ⟨by simp only [hp.c_member] at h1 ⊢; omega, h2⟩
  · exact ⟨rfl, hi⟩

theorem ocVisit_cnt (cfg : Config) : ∀ (f : Nat) (n : Node) (oc : OcSt) (s : St),
    ns n = 0 → OcZ oc → OcInv oc → OcPostC p n oc (ocVisit cfg f n oc s) := fun f n oc s h hz hi =>
  ocVisit_rule cfg (Pre := fun n oc _ => ns n = 0 ∧ OcZ oc ∧ OcInv oc) (Q := fun n oc _ R => OcPostC p n oc R)
    (H := fun n oc _ R => OcInv R.1.2 ∧ OcZ R.1.2 ∧ (R.1.1 = none → R.1.2 = oc) ∧ ∀ r, R.1.1 = some r →
      ns r = 0 ∧ count p r + countL p R.1.2.assignments = count p n + countL p oc.assignments)
    (fun _ _ _ h => ⟨rfl, h.2.2⟩)
    (fun _ _ _ h => ⟨rfl, h.2.2⟩)
    (fun o callee args csp sp oc s ⟨h, hz, hi⟩ => by
      rw [ns_optChain, ns_optCall, Nat.add_eq_zero_iff] at h
      have hE := getCallFromBaseCall_cnt hp callee args csp o oc s h.1 hi
      have hZ := getCallFromBaseCall_z callee args o oc s h.1 h.2 hz
      exact ⟨hE.1, hZ.1, hE.2.1, fun r hr => ⟨hZ.2.1 r hr, by rw [hE.2.2 r hr, hp.c_optChain]⟩⟩)
    (fun o obj prop msp sp oc s ⟨h, hz, hi⟩ => by
      rw [ns_optChain, ns_member, Nat.add_eq_zero_iff] at h
      have hE := getMemberFromBaseMember_cnt hp obj prop msp o oc s hi
      have hZ := getMemberFromBaseMember_z obj prop msp o oc s h.1 h.2 hz
      exact ⟨hE.1, hZ.1, hE.2.1, fun r hr => ⟨hZ.2.1 r hr, by rw [hE.2.2 r hr, hp.c_optChain]⟩⟩)
    (fun _ _ _ h => ⟨h.2.2, h.2.1, fun _ => rfl, nofun⟩)
    (fun n oc s r oc1 s1 ⟨h, _, _⟩ ⟨i1, z1, hnone, hsome⟩ => by
      have hr1 : ns (r.getD n) = 0 ∧
          count p (r.getD n) + countL p oc1.assignments = count p n + countL p oc.assignments := by
        cases r with
        | none => obtain rfl : oc1 = oc := hnone rfl; exact ⟨h, rfl⟩
        | some x => exact hsome x rfl
      exact ⟨⟨hr1.1, z1, i1⟩, fun X ⟨t1, t2⟩ => ⟨t1.trans hr1.2, t2⟩⟩)
    (fun f hv e oc s ⟨h, hz, hi⟩ => ocSpine_cnt hp _
      (fun e oc s a b c => ⟨hv e oc s ⟨a, b, c⟩, ocVisit_z cfg f e oc s a b⟩) e oc s h hz hi)
    (fun _ _ _ h => ⟨h, fun _ hX => hX⟩) f n oc s ⟨h, hz, hi⟩

theorem toDdCond_cnt (cfg : Config) (fuel : Nat) (e : Node) (s : St) (h : ns e = 0) :
    count p ((toDdCond cfg fuel e s).1.2.getD (toDdCond cfg fuel e s).1.1) = count p e := by
  unfold toDdCond
  simp only [run_bind]
  have hv : OcPostC p e {} (StateT.run (ocVisit cfg fuel e) {} s) := ocVisit_cnt hp cfg fuel e {} s h rfl (Or.inl rfl)
  generalize (StateT.run (ocVisit cfg fuel e) {} s) = X at hv ⊢
  obtain ⟨⟨e', oc⟩, s'⟩ := X
  obtain ⟨h1, h2⟩ := hv
  simp only [countL_nil, Nat.add_zero] at h1
  cases hn : oc.newIdent with
  | none =>
    rcases h2 with h2 | h2
    · rw [h2] at h1; exact h1
    · rw [hn] at h2; cases h2
  | some t =>
    dsimp only
    split
    · rename_i ha
      rw [List.isEmpty_iff.mp ha] at h1; exact h1
    · simp only [run_pure, Option.getD_some, hp.c_paren, hp.c_seq, countL_append, countL_cons, countL_nil, hp.c_cond,
        hp.c_bin, hp.c_tempIdent, hp.c_nullLit, hp.c_undefined]
      omega

end
end IastModel
