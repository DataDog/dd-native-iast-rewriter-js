import IastModel.Lemmas.EffBlock
/-
  `cn d`: the number of hook call sites named `d`, as an instance of the counting theorems at `isHookNamed d`.
-/
namespace IastModel
open Node

/-- hook call sites with replacement name `d` -/
def isHookNamed (d : String) (n : Node) : Bool := hookName? n == some d

def cn (d : String) (n : Node) : Nat := Node.count (isHookNamed d) n
def cnL (d : String) (l : List Node) : Nat := (l.map (cn d)).sum

theorem cn_eq (d : String) (n : Node) : cn d n = (if isHookNamed d n then 1 else 0) + cnL d n.kids :=
  Node.count_eq (isHookNamed d) n

@[simp] theorem cnL_nil (d) : cnL d [] = 0 := rfl
@[simp] theorem cnL_cons (d) (x : Node) (xs : List Node) : cnL d (x :: xs) = cn d x + cnL d xs := countL_cons _ x xs
@[simp] theorem cnL_append (d) (xs ys : List Node) : cnL d (xs ++ ys) = cnL d xs + cnL d ys := countL_append _ xs ys

theorem isHookNamed_of_none (d : String) {n : Node} (h : hookName? n = none) : isHookNamed d n = false := by
  simp only [isHookNamed, h]; rfl

theorem isHookNamed_not_call (d : String) (n : Node) (hc : ∀ c as sp, n ≠ .call c as sp) : isHookNamed d n = false := by
  cases n <;> first | rfl | exact absurd rfl (hc _ _ _)

theorem scaf_hookNamed (d : String) : Scaf (isHookNamed d) where
  glue n h := by cases n <;> first | rfl | cases h
  tpl _ _ _ _ _ := rfl
  call := by intro _ _ _ _ _ _ h h'; rw [isHookNamed_of_none d h, isHookNamed_of_none d h']
  optCall := by intro _ _ _ _ _ _ h; rw [isHookNamed_of_none d h]; rfl
  assign := by intros; rfl

theorem targetBlind_hookNamed (d : String) : TargetBlind (isHookNamed d) :=
  ⟨fun n h => by cases n <;> first | rfl | (cases h), fun _ => rfl, fun _ _ _ _ _ => rfl⟩

theorem leaf_cn (d : String) {e : Node} (h : leaf e = true) : cn d e = 0 := (targetBlind_hookNamed d).1.of_leaf h

theorem hookW_hookNamed (d : String) {x : Node} {m : String} (h : hookName? x = some m) :
    hookW (isHookNamed d) x = if m == d then 1 else 0 := by
  rw [hookW_of_ident (targetBlind_hookNamed d).1.ident, isHookNamed, h]
  by_cases hd : m = d <;> simp [hd]

end IastModel
