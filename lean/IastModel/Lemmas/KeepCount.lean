import IastModel.Lemmas.CnMaster
/-
  C04, "no block statement is dropped": `cb B`, the number of occurrences of the block statement `B`, is an
  instance of the counting theorems at `isBAt B`; the operand handler, the transforms and the optional-chain
  lowering move blocks but neither copy nor lose them.
-/
namespace IastModel
open Node

/-- the block statement `B` itself -/
def isBAt (B : Node) (n : Node) : Bool :=
  match n with
  | .block ss sp => Node.beq (.block ss sp) B
  | _ => false

/-- how many times the block `B` occurs in a tree, at any depth -/
def cb (B : Node) (n : Node) : Nat := Node.count (isBAt B) n
def cbL (B : Node) (l : List Node) : Nat := (l.map (cb B)).sum

theorem cb_eq (B) (n : Node) : cb B n = (if isBAt B n then 1 else 0) + cbL B n.kids := Node.count_eq (isBAt B) n

@[simp] theorem cbL_nil (B) : cbL B [] = 0 := rfl
@[simp] theorem cbL_cons (B) (x : Node) (xs : List Node) : cbL B (x :: xs) = cb B x + cbL B xs := countL_cons _ x xs
@[simp] theorem cbL_append (B) (xs ys : List Node) : cbL B (xs ++ ys) = cbL B xs + cbL B ys := countL_append _ xs ys

theorem isBAt_of_noBA (B : Node) {n : Node} (h : isBA n = false) : isBAt B n = false := by
  cases n <;> first | rfl | cases h

theorem cb_noBA (B) (n : Node) (h : isBA n = false) : cb B n = cbL B n.kids :=
  count_of_false _ (isBAt_of_noBA B h)

theorem isBAt_withKids (B : Node) (n : Node) (ks : List Node) (h : isBA n = false) :
    isBAt B (n.withKids ks) = isBAt B n := by
  cases n <;> first | rfl | cases h

theorem scaf_blockAt (B : Node) : Scaf (isBAt B) where
  glue n h := by cases n <;> first | rfl | cases h
  tpl _ _ _ _ _ := rfl
  call := by intros; rfl
  optCall := by intros; rfl
  assign := by intros; rfl

theorem targetBlind_blockAt (B : Node) : TargetBlind (isBAt B) :=
  ⟨fun n h => by cases n <;> first | rfl | (cases h), fun _ => rfl, fun _ _ _ _ _ => rfl⟩

theorem hookW_blockAt (B : Node) {x : Node} {m : String} (h : hookName? x = some m) : hookW (isBAt B) x = 0 := by
  obtain ⟨_, _, _, _, _, _, rfl, _⟩ := hookName?_some h
  rw [hookW_of_ident fun _ _ => rfl]; rfl

@[simp] theorem cb_pname (B) (n : String) (s : Span) : cb B (.pname n s) = 0 := (scaf_blockAt B).c_pname n s
@[simp] theorem cb_ident (B) (n : Name) (s : Span) : cb B (.ident n s) = 0 := (targetBlind_blockAt B).1.of_leaf rfl
@[simp] theorem cb_bin (B) (op : String) (l r : Node) (s : Span) : cb B (.bin op l r s) = cb B l + cb B r :=
  (scaf_blockAt B).c_bin op l r s
@[simp] theorem cb_member (B) (o p : Node) (s : Span) : cb B (.member o p s) = cb B o + cb B p :=
  (scaf_blockAt B).c_member o p s
@[simp] theorem cb_call (B) (c : Node) (as : List Node) (s : Span) : cb B (.call c as s) = cb B c + cbL B as :=
  (count_call _ c as s).trans (Nat.zero_add _)
theorem cb_block (B) (ss : List Node) (s : Span) :
    cb B (.block ss s) = (if Node.beq (.block ss s) B then 1 else 0) + cbL B ss := count_block _ ss s
@[simp] theorem cb_arrow (B) (ps : List Node) (b : Node) (a : String) (s : Span) : cb B (.arrow ps b a s) = cbL B ps + cb B b :=
  (count_arrow _ ps b a s).trans (Nat.zero_add _)

theorem toDdBinary_K (B : Node) (cfg : Config) (op : String) (l r : Node) (sp : Span) (s : St) :
    ∀ e', (toDdBinary cfg (.bin op l r sp) s).1 = some e' →
      cb B l + cb B r ≤ cb B e' ∧ cb B e' ≤ 2 * (cb B l + cb B r) := by
  intro e' he
  obtain ⟨hn, h⟩ := toDdBinary_cnt (scaf_blockAt B) cfg op l r sp s e' he
  have := h.eq (targetBlind_blockAt B).1
  rw [hookW_blockAt B hn] at this
  show count (isBAt B) l + count (isBAt B) r ≤ count (isBAt B) e' ∧ count (isBAt B) e' ≤ 2 * (count (isBAt B) l + count (isBAt B) r)
  omega

theorem toDdTpl_K (B : Node) (cfg : Config) (exprs quasis : List Node) (sp : Span) (s : St) :
    ∀ e', (toDdTpl cfg (.tpl exprs quasis sp) s).1 = some e' →
      cb B (.tpl exprs quasis sp) ≤ cb B e' ∧ cb B e' ≤ 2 * cb B (.tpl exprs quasis sp) := by
  intro e' he
  obtain ⟨hn, h⟩ := toDdTpl_cnt (scaf_blockAt B) cfg exprs quasis sp s e' he
  have := h.eq (targetBlind_blockAt B).1
  rw [hookW_blockAt B hn] at this
  show count (isBAt B) (.tpl exprs quasis sp) ≤ count (isBAt B) e' ∧ count (isBAt B) e' ≤ 2 * count (isBAt B) (.tpl exprs quasis sp)
  omega

theorem toDdCall_K (B : Node) (cfg : Config) (callee : Node) (cargs : List Node) (csp : Span) (s : St) :
    ∀ e' tag, (toDdCall cfg (.call callee cargs csp) s).1 = some (e', tag) →
      cb B callee + cbL B cargs ≤ cb B e' ∧ cb B e' ≤ 3 * (cb B callee + cbL B cargs) := by
  intro e' tag he
  obtain ⟨⟨_, _, hn⟩, h⟩ := toDdCall_cntU (scaf_blockAt B) cfg callee cargs csp s (u := 0) (fun _ => rfl) e' tag he
  have := h.eq (targetBlind_blockAt B).1
  rw [hookW_blockAt B hn] at this
  show count (isBAt B) callee + countL (isBAt B) cargs ≤ count (isBAt B) e' ∧
    count (isBAt B) e' ≤ 3 * (count (isBAt B) callee + countL (isBAt B) cargs)
  omega

theorem toDdAssign_K (B : Node) (cfg : Config) (op : String) (left r : Node) (sp : Span) (s : St) :
    ∀ e', (toDdAssign cfg (.assign op left r sp) s).1 = some e' → LZ (cb B (.assign op left r sp)) (cb B e') := by
  intro e' he
  obtain ⟨hn, κ, h, hk, _⟩ := toDdAssign_cnt (scaf_blockAt B) cfg op left r sp s e' he
  rw [hookW_blockAt B hn] at h
  exact LZ.of_copies (w := count (isBAt B) _) (out := count (isBAt B) e') (by omega) hk

def OcPostK (B : Node) (n : Node) (oc : OcSt) (R : (Node × OcSt) × St) : Prop :=
  cb B R.1.1 + cbL B R.1.2.assignments = cb B n + cbL B oc.assignments ∧ OcInv R.1.2

theorem ocVisit_K (B : Node) (cfg : Config) : ∀ (f : Nat) (n : Node) (oc : OcSt) (s : St),
    ns n = 0 → OcZ oc → OcInv oc → OcPostK B n oc (ocVisit cfg f n oc s) :=
  ocVisit_cnt (scaf_blockAt B) cfg

/-- the lowering of an optional chain keeps every block statement exactly once -/
theorem toDdCond_K (B : Node) (cfg : Config) (fuel : Nat) (e : Node) (s : St) (h : ns e = 0) :
    cb B ((toDdCond cfg fuel e s).1.2.getD (toDdCond cfg fuel e s).1.1) = cb B e :=
  toDdCond_cnt (scaf_blockAt B) cfg fuel e s h

/-- the operation visitor never drops a block statement: every occurrence of `B` in a node is still in the visited node -/
theorem visit_K (B : Node) (cfg : Config) (ok : String → Bool) (hcfg : CfgOk ok cfg) :
    ∀ (f : Nat) (root : Bool) (n : Node) (s : St), ns n = 0 → targetsOk n = true → StOk s →
      cb B n ≤ cb B (visit cfg f root n s).1 :=
  visit_rel_w (r := fun a b => a ≤ b) Nat.le_refl Nat.le_trans Nat.add_le_add (scaf_blockAt B) cfg ok hcfg
    (fun _ _ n _ hba _ _ _ => isBAt_withKids B n _ hba)
    (fun n => by
      obtain ⟨k, h, _⟩ := (scaf_blockAt B).c_toDdArrow (fun _ _ _ _ _ => rfl) n
      rw [h]; exact Nat.le_add_right _ _)
    (fun op l r sp s e' _ he => by rw [(scaf_blockAt B).c_bin]; exact (toDdBinary_K B cfg op l r sp s e' he).1)
    (fun op l r sp s e' _ he => (toDdAssign_K B cfg op l r sp s e' he).1)
    (fun es qs sp s e' he => (toDdTpl_K B cfg es qs sp s e' he).1)
    (fun c as sp s e' tag _ he => by
      have := (toDdCall_K B cfg c as sp s e' tag he).1
      rwa [← cb_call B c as sp] at this)

end IastModel
