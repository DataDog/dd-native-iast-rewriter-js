import IastModel.Lemmas.CovBlock
import IastModel.Lemmas.KeepCount
/-
  C04, whole traversal: every block statement of the tree — at any depth — is entered by the block
  visitor and comes back with its required operations instrumented.  `cb B k` counts the occurrences of
  the block `B` in `k` (at any depth); the operation visitor never drops a block (`visit_K`), so a
  block nested in a statement of an entered block is still there when the nested traversal starts.
-/
namespace IastModel
open Node

def stmtsOf : Node → List Node
  | .block ss _ => ss
  | _ => []

theorem cbL_pos {B : Node} : ∀ {l : List Node}, 1 ≤ cbL B l → ∃ x ∈ l, 1 ≤ cb B x :=
  exists_pos_of_sum_map_pos (cb B)

theorem insertVar_cb (B : Node) (idents : List Nat) (ks : List Node) (sp : Span) :
    ∃ ks2, insertVariableDeclaration idents (.block ks sp) = .block ks2 sp ∧ cbL B ks2 = cbL B ks :=
  insertVar_cnt (letDecl_cnt (fun _ _ _ _ _ => rfl) (fun _ => rfl) (fun _ => rfl) (fun _ _ => rfl)) idents ks sp

/-- the statements of a block, visited one after the other, keep every nested block -/
theorem mapVisit_K (B : Node) (cfg : Config) (ok) (hcfg : CfgOk ok cfg) (f : Nat) (r : Bool) :
    ∀ (ks : List Node) (s : St), nsL ks = 0 → (∀ k ∈ ks, targetsOk k = true) → StOk s →
      cbL B ks ≤ cbL B (mapM' (visit cfg f r) ks s).1 := by
  intro ks
  induction ks with
  | nil => intro s _ _ _; exact Nat.le_refl _
  | cons k ks ihk =>
    intro s hz htk hs
    simp only [nsL_cons] at hz
    simp only [mapM', run_bind, run_pure, cbL_cons]
    have hk1 := visit_K B cfg ok hcfg f r k s (by omega) (htk k (by simp)) hs
    have hsp := visit_spec ok cfg hcfg f r k s (by omega) (htk k (by simp)) hs
    exact Nat.add_le_add hk1 (ihk _ (by omega) (fun x hx => htk x (by simp [hx])) (hsp.2.1.stOk hs))

/-- one list of nodes handed to the nested traversal: a block that occurs in one of them is covered -/
theorem mapReach (q : Node → Bool) (ok) (B : Node) (c : Nat) (g : Node → M Node)
    (hb : ∀ k s, StOk s → goodW ok true k = true → StOk (g k s).2 → (g k s).2.fuelOut = false → 1 ≤ cb B k →
      c ≤ cq q (g k s).1)
    (hsp : ∀ k s, StOk s → goodW ok true k = true → BSpec ok k (g k s) s)
    (hc : ∀ k s, s.status = .cancelled → (g k s).2.status = .cancelled) :
    ∀ (ks : List Node) (s : St), StOk s → goodL ok true ks = true → StOk (mapM' g ks s).2 →
      (mapM' g ks s).2.fuelOut = false → 1 ≤ cbL B ks → c ≤ cqL q (mapM' g ks s).1 := by
  intro ks
  induction ks with
  | nil => intro s _ _ _ _ h; simp at h
  | cons x xs ih =>
    intro s hs hg hfin hfo hpos
    simp only [goodL_cons, Bool.and_eq_true] at hg
    simp only [mapM', run_bind, run_pure] at hfin hfo ⊢
    have h1 := hb x s hs hg.1
    have hs1' := hsp x s hs hg.1
    generalize hR1 : g x s = R1 at h1 hfin hfo hs1'
    obtain ⟨x', s1⟩ := R1
    simp only at hfin hfo h1 hs1' ⊢
    have hs1 : StOk s1 := by
      intro hcn
      exact hfin (mapM'_canc g hc xs s1 hcn)
    have hrest := mapBlock_spec ok g hsp hc xs s1 hs1 hg.2 hfin
    have hfo1 : s1.fuelOut = false := by
      obtain ⟨_, _, k, ek, _⟩ := hrest
      exact ek.fo hfo
    simp only [cqL_cons]
    simp only [cbL_cons] at hpos
    by_cases hx : 1 ≤ cb B x
    · have := h1 hs1 hfo1 hx
      omega
    · have := ih s1 hs1 hg.2 hfin hfo (by omega)
      omega

/-- the traversal reaches every occurrence of the block `B`: whatever is guaranteed (`c` hook calls of the
    site) when the block visitor stands on `B` itself (`hself`) holds for every node that contains `B` -/
theorem blockVisit_reach_gen (ok) (cfg : Config) (hcfg : CfgOk ok cfg) (d : String) (sp0 : Span) (B : Node) (opFuel : Nat) (c : Nat)
    (hself : ∀ (f : Nat) (ss : List Node) (sp : Span) (s : St), StOk s → goodW ok true (.block ss sp) = true →
      StOk (blockVisit cfg opFuel (f + 1) (.block ss sp) s).2 → (blockVisit cfg opFuel (f + 1) (.block ss sp) s).2.fuelOut = false →
      Node.block ss sp = B → c ≤ cq (qAt d sp0) (blockVisit cfg opFuel (f + 1) (.block ss sp) s).1) :
    ∀ (f : Nat) (n : Node) (s : St), StOk s → goodW ok true n = true → StOk (blockVisit cfg opFuel f n s).2 →
      (blockVisit cfg opFuel f n s).2.fuelOut = false → 1 ≤ cb B n →
      c ≤ cq (qAt d sp0) (blockVisit cfg opFuel f n s).1 := by
  intro f
  induction f with
  | zero =>
    intro n s _ _ _ hfo _
    simp only [blockVisit, run_bind, run_pure] at hfo
    cases hfo
  | succ f ih =>
    intro n s hs hg hfin hfo hpos
    have hlist := mapReach (qAt d sp0) ok B c (blockVisit cfg opFuel f)
      (fun k s hs hg hf hfo hp => ih k s hs hg hf hfo hp)
      (fun k s hs hg => blockVisit_spec ok cfg hcfg opFuel f k s hs hg)
      (fun k s h => blockVisit_canc cfg opFuel f k s h)
    by_cases hb : isBlockNode n = true
    · unfold isBlockNode at hb
      split at hb
      · rename_i ss sp
        rw [cb_block] at hpos
        by_cases hself' : Node.beq (.block ss sp) B = true
        · -- the block itself
          exact hself f ss sp s hs hg hfin hfo (beq_eq _ _ hself')
        · -- a block nested in one of its statements
          rw [if_neg hself', Nat.zero_add] at hpos
          obtain ⟨h0, htk, ks1, s1, ks2, hK, hfo1, hs1, hins, g2, heq⟩ :=
            blockVisit_block_run ok cfg hcfg opFuel f ss sp s hs hg hfin hfo
          rw [heq] at hfin hfo ⊢
          have hk1 := mapVisit_K B cfg ok hcfg opFuel true ss (resetProvider s) h0 htk hs
          rw [hK] at hk1
          obtain ⟨_, hins', e2⟩ := insertVar_cb B s1.idents ks1 sp
          cases hins.symm.trans hins'
          rw [cq_block]
          exact hlist ks2 s1 hs1 g2 hfin hfo (by rw [e2]; exact Nat.le_trans hpos hk1)
      · cases hb
    · simp only [Bool.not_eq_true] at hb
      rw [cb_noBA _ _ hb] at hpos
      rw [blockVisit_generic cfg opFuel f n hb] at hfin hfo ⊢
      rw [cq_eq _ (mapKidsM mapM' (blockVisit cfg opFuel f) n s).1]
      suffices hk : c ≤ cqL (qAt d sp0) (mapKidsM mapM' (blockVisit cfg opFuel f) n s).1.kids by omega
      have hspec := mapBlock_spec ok (blockVisit cfg opFuel f)
        (fun k s hs hg => blockVisit_spec ok cfg hcfg opFuel f k s hs hg)
        (fun k s h => blockVisit_canc cfg opFuel f k s h)
      have hg' := hg
      rw [goodW_eq] at hg'
      simp only [hb, Bool.and_false, Bool.false_eq_true, if_false] at hg'
      cases hh : hookName? n with
      | none =>
        rw [hh] at hg'
        simp only [Bool.and_eq_true, Bool.not_eq_true'] at hg'
        simp only [mapKidsM, run_bind, run_pure] at hfin hfo ⊢
        have e3 := hlist n.kids s hs hg'.2 hfin hfo hpos
        obtain ⟨g3, l3, _⟩ := hspec n.kids s hs hg'.2 hfin
        rw [Node.kids_withKids n _ l3]
        exact e3
      | some nm =>
        obtain ⟨x, isp, psp, msp, args, sp, rfl, hx⟩ := hookName?_some hh
        rw [hh] at hg'
        simp only [kids, List.drop_succ_cons, List.drop_zero, Bool.and_eq_true] at hg'
        simp only [kids, cbL_cons, cb_member, cb_ident, cb_pname, Nat.zero_add] at hpos
        simp only [mapKidsM, kids, mapM', run_bind, run_pure] at hfin hfo ⊢
        have hc := blockVisit_callee cfg opFuel f (.user x) isp nm psp msp s
        generalize blockVisit cfg opFuel f (.member (.ident (.user x) isp) (.pname nm psp) msp) s = RC at hc hfin hfo
        obtain ⟨c', s1⟩ := RC
        obtain ⟨hc1, t1⟩ := hc
        simp only at hc1 t1 hfin hfo ⊢
        subst hc1
        have e1 : Eff s s1 0 := Eff.of_TS t1
        have e3 := hlist args s1 (e1.stOk hs) hg'.2 hfin hfo hpos
        simp only [withKids, List.getD_cons_zero, List.drop_succ_cons, List.drop_zero, cqL_cons]
        omega

/-- **every block statement of a tree is entered.**  Whatever node the block visitor is started on, in
    any state that is not cancelled: unless the run is cancelled or out of fuel, every block statement `B`
    occurring in it — at any depth, inside nested functions, closures, classes — comes back with at least
    one hook call of the expected name and span for every operation required in its statements. -/
theorem blockVisit_reach (ok) (cfg : Config) (hcfg : CfgOk ok cfg) (d : String) (sp0 : Span) (B : Node) (opFuel : Nat) :
    ∀ (f : Nat) (n : Node) (s : St), StOk s → goodW ok true n = true → StOk (blockVisit cfg opFuel f n s).2 →
      (blockVisit cfg opFuel f n s).2.fuelOut = false → 1 ≤ cb B n →
      RL cfg d sp0 (stmtsOf B) ≤ cq (qAt d sp0) (blockVisit cfg opFuel f n s).1 :=
  blockVisit_reach_gen ok cfg hcfg d sp0 B opFuel _ (fun f ss sp s hs hg hfin hfo hB => by
    subst hB
    exact block_cover ok cfg hcfg d sp0 opFuel f ss sp s hs hg hfin hfo)

end IastModel
