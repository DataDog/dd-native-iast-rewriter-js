import IastModel.Lemmas.CovDefs
/-
  Small facts the coverage proofs share: the shape facts `SK` the operation visitor keeps, which children of a node the
  visitor reaches (`visitedKids_other`), and sums over lists (`le_sum_map_of_mem`, `exists_pos_of_sum_map_pos`).
-/
namespace IastModel
open Node

/-- shape facts the coverage argument needs about a visited node: sums of literals stay what they are,
    and (with `+` enabled) no un-instrumented `+` chain comes back -/
def SK (cfg : Config) (n n' : Node) : Prop :=
  isLiteralSum n' = isLiteralSum n ∧ (cfg.plusEnabled = true → isPlusSum n' = true → isLiteralSum n' = true)

theorem SK.nlSum {cfg : Config} {n n' : Node} (h : SK cfg n n') (hp : cfg.plusEnabled = true) : nlSum n' = false := by
  unfold IastModel.nlSum
  cases hps : isPlusSum n'
  · rfl
  · simp [h.2 hp hps]

theorem isLiteralSum_withKids_other (n : Node) (ks : List Node) (hb : ∀ op l r sp, n ≠ .bin op l r sp) :
    isLiteralSum (n.withKids ks) = isLiteralSum n ∧ isPlusSum (n.withKids ks) = false := by
  unfold Node.withKids
  split <;> first | exact ⟨rfl, rfl⟩ | exact absurd rfl (hb _ _ _ _)

theorem SK.of_not_bin {cfg : Config} (n : Node) (ks : List Node) (hb : ∀ op l r sp, n ≠ .bin op l r sp) : SK cfg n (n.withKids ks) := by
  obtain ⟨h1, h2⟩ := isLiteralSum_withKids_other n ks hb
  exact ⟨h1, by intro _ h; rw [h2] at h; cases h⟩

theorem SK.refl (cfg : Config) (n : Node) (h : isPlusSum n = true → isLiteralSum n = true) : SK cfg n n := ⟨rfl, fun _ => h⟩

theorem isPlusSum_ddParen (e : Node) (args asg : List Node) (m : String) (sp : Span) :
    isPlusSum (ddParen e args asg m sp) = false ∧ isLiteralSum (ddParen e args asg m sp) = false := by
  unfold ddParen
  split <;> exact ⟨rfl, rfl⟩


theorem visitedKids_other (cfg : Config) (n : Node)
    (h1 : ∀ ss sp, n ≠ .block ss sp) (h2 : ∀ ps b a sp, n ≠ .arrow ps b a sp) (h3 : ∀ o b sp, n ≠ .optChain o b sp)
    (h4 : ∀ nm sp, n ≠ .ident nm sp) (h5 : ∀ op a sp, n ≠ .unary op a sp) (h6 : ∀ es qs sp, n ≠ .tpl es qs sp) :
    visitedKids cfg n = n.kids := by
  unfold visitedKids
  split
  · exact absurd rfl (h1 _ _)
  · exact absurd rfl (h2 _ _ _ _)
  · exact absurd rfl (h3 _ _ _)
  · exact absurd rfl (h4 _ _)
  · exact absurd rfl (h5 _ _ _)
  · exact absurd rfl (h6 _ _ _)
  · rfl

theorem le_sum_map_of_mem {α : Type} (f : α → Nat) {x : α} : ∀ {l : List α}, x ∈ l → f x ≤ (l.map f).sum
  | _ :: xs, h => by
    rw [List.map_cons, List.sum_cons]
    cases h with
    | head => exact Nat.le_add_right _ _
    | tail _ h' => exact Nat.le_trans (le_sum_map_of_mem f h') (Nat.le_add_left _ _)

theorem exists_pos_of_sum_map_pos {α : Type} (f : α → Nat) : ∀ {l : List α}, 1 ≤ (l.map f).sum → ∃ x ∈ l, 1 ≤ f x
  | [], h => absurd h (Nat.not_succ_le_zero 0)
  | x :: xs, h => by
    rw [List.map_cons, List.sum_cons] at h
    by_cases hx : 1 ≤ f x
    · exact ⟨x, List.mem_cons_self .., hx⟩
    · obtain ⟨y, hy, h1⟩ := exists_pos_of_sum_map_pos f (l := xs) (by omega)
      exact ⟨y, List.mem_cons_of_mem _ hy, h1⟩

end IastModel
