import IastModel.Lemmas.ErCore
namespace IastModel
open Node

def WinU (lo hi k0 k1 : Nat) (Δ : Env) : Prop := ∀ p ∈ Δ, (lo ≤ p.1 ∧ p.1 < hi) ∨ (k0 ≤ p.1 ∧ p.1 < k1)

theorem WinU.nil (lo hi k0 k1 : Nat) : WinU lo hi k0 k1 [] := by intro p hp; cases hp

theorem WinU.append {lo hi k0 k1 : Nat} {Δ Δ' : Env} (h : WinU lo hi k0 k1 Δ) (h' : WinU lo hi k0 k1 Δ') :
    WinU lo hi k0 k1 (Δ ++ Δ') := by
  intro p hp
  rcases List.mem_append.mp hp with hp | hp
  · exact h p hp
  · exact h' p hp

theorem WinU.mono {lo hi k0 k1 k0' k1' : Nat} {Δ : Env} (h : WinU lo hi k0 k1 Δ) (h1 : k0' ≤ k0) (h2 : k1 ≤ k1') :
    WinU lo hi k0' k1' Δ := by
  intro p hp; have := h p hp; omega

theorem Win.winU {lo hi k0 k1 : Nat} {Δ : Env} (h : Win lo hi Δ) : WinU lo hi k0 k1 Δ := by
  intro p hp; exact Or.inl (h p hp)

/-- side conditions on the windows: the operands' window lies below the context's window, which lies
    below the temporaries still to be allocated -/
structure HypW (cx : Cx) (hi : Nat) (s : St) : Prop where
  h1 : ∀ k, cx.bad k → hi ≤ k
  h2 : ∀ k, cx.bad k → k < s.counter
  h3 : hi ≤ s.counter

theorem HypW.mono {cx : Cx} {hi : Nat} {s s' : St} (h : HypW cx hi s) (hc : s.counter ≤ s'.counter) : HypW cx hi s' :=
  ⟨h.h1, fun k hk => by have := h.h2 k hk; omega, by have := h.h3; omega⟩

theorem WinU.avoidCx {cx : Cx} {lo hi : Nat} {s : St} {k1 : Nat} {Δ : Env} (hw : HypW cx hi s)
    (h : WinU lo hi s.counter k1 Δ) : AvoidP cx.bad Δ := by
  intro p hp hb
  have := h p hp
  have := hw.h1 _ hb; have := hw.h2 _ hb
  omega

/-! ### the bindings of a hoisted call

Newest first: what the arguments bind (`Δ3`), the argument handler's temporaries (`Δa`, keys in `[c, d)`), the
function value under key `b`, what evaluating it bound (`Δm`), and the receiver stage (`Δ0`, keys in `[a, b)`),
with `hi ≤ a ≤ b < c ≤ d`. -/

theorem winU_win {lo hi k0 k1 : Nat} {Δ : Env} (h : WinU lo hi k0 k1 Δ) (h1 : lo ≤ k0) (h2 : hi ≤ k1) : Win lo k1 Δ := by
  intro p hp; have := h p hp; omega

theorem Win.single {lo hi k : Nat} (v : Node) (h1 : lo ≤ k) (h2 : k < hi) : Win lo hi [(k, v)] := by
  intro p hp; rw [List.mem_singleton.mp hp]; exact ⟨h1, h2⟩

theorem Win.hoisted {lo hi a b c d : Nat} {Δ3 Δa Δm Δ0 : Env} (v : Node)
    (h3 : Win lo hi Δ3) (ha : WinU lo hi c d Δa) (hm : Win lo hi Δm) (h0 : WinU lo hi a b Δ0)
    (hlo : lo ≤ a) (hhi : hi ≤ a) (hab : a ≤ b) (hbc : b < c) (hcd : c ≤ d) :
    Win lo d (Δ3 ++ Δa ++ [(b, v)] ++ Δm ++ Δ0) :=
  have hbd : b < d := Nat.lt_of_lt_of_le hbc hcd
  have hib : hi ≤ b := Nat.le_trans hhi hab
  have hid : hi ≤ d := Nat.le_trans hib (Nat.le_of_lt hbd)
  have hlb : lo ≤ b := Nat.le_trans hlo hab
  ((((h3.mono (Nat.le_refl _) hid).append (winU_win ha (Nat.le_trans hlb (Nat.le_of_lt hbc)) hid)).append
    (Win.single v hlb hbd)).append (hm.mono (Nat.le_refl _) hid)).append
    ((winU_win h0 hlo hib).mono (Nat.le_refl _) (Nat.le_of_lt hbd))

theorem Win.avoid {lo hi a b : Nat} {Δ : Env} (h : Win lo hi Δ) (h1 : hi ≤ a) : Avoid a b Δ :=
  fun p hp => Or.inl (Nat.lt_of_lt_of_le (h p hp).2 h1)

theorem WinU.avoid {lo hi a b c d : Nat} {Δ : Env} (h : WinU lo hi c d Δ) (h1 : hi ≤ a) (h2 : b ≤ c) : Avoid a b Δ :=
  fun p hp => (h p hp).elim (fun w => Or.inl (Nat.lt_of_lt_of_le w.2 h1)) (fun w => Or.inr (Nat.le_trans h2 w.1))

theorem Avoid.sub {a b a' b' : Nat} {Δ : Env} (h : Avoid a b Δ) (h1 : a ≤ a') (h2 : b' ≤ b) : Avoid a' b' Δ :=
  fun p hp => (h p hp).elim (fun w => Or.inl (Nat.lt_of_lt_of_le w h1)) (fun w => Or.inr (Nat.le_trans h2 w))

theorem Avoid.single {a b k : Nat} (v : Node) (h : b ≤ k) : Avoid a b [(k, v)] := by
  intro p hp; rw [List.mem_singleton.mp hp]; exact Or.inr h

/-- the bindings made after the receiver stage stay out of its window `[a, b)` -/
theorem Avoid.hoisted {lo hi a b c d : Nat} {Δa Δm : Env} (v : Node) (ha : WinU lo hi c d Δa) (hm : Win lo hi Δm)
    (hhi : hi ≤ a) (hbc : b < c) : Avoid a b (Δa ++ [(b, v)] ++ Δm) :=
  ((ha.avoid hhi (Nat.le_of_lt hbc)).append (Avoid.single v (Nat.le_refl b))).append (hm.avoid hhi)

theorem Env.get_hoisted {lo hi b c d : Nat} {Δa : Env} (ha : WinU lo hi c d Δa) (hhi : hi ≤ b) (hbc : b < c)
    (v : Node) (σ : Env) : Env.get (Δa ++ (b, v) :: σ) b = some v := by
  rw [Env.get_append_of_notin _ _ _ (by intro p hp; have := ha p hp; omega), Env.get_cons_same]

theorem AvoidP.hoisted {cx : Cx} {lo hi b : Nat} {s : St} {Δm : Env} (hw : HypW cx hi s) (hb : s.counter ≤ b) (v : Node)
    (hm : Win lo hi Δm) : AvoidP cx.bad ([(b, v)] ++ Δm) := by
  refine AvoidP.append ?_ (hm.avoidP hw.h1)
  intro p hp hbad
  rw [List.mem_singleton.mp hp] at hbad
  exact absurd (hw.h2 _ hbad) (Nat.not_lt.mpr hb)

/-- what the operand handler guarantees for one operand (for every replacement of nested blocks in
    what it produced) -/
def OpEr (cx : Cx) (lo hi : Nat) (e : Node) (asg args : List Node) (R : (Node × List Node × List Node) × St) (s : St) : Prop :=
  ∃ new more, R.1.2.1 = asg ++ new ∧ R.1.2.2 = args ++ more ∧ AllTA new ∧ InertL more ∧ noBlkL more = true ∧
    s.counter ≤ R.2.counter ∧
    (∀ new'', BRgL new new'' → ∀ σ, cx.ext σ → ∃ Δ, eraseAsg σ new'' = Δ ++ σ ∧ WinU lo hi s.counter R.2.counter Δ) ∧
    (∀ new'' x'', BRgL new new'' → BRg R.1.1 x'' → ∀ σ Δ2, cx.ext σ → Avoid s.counter R.2.counter Δ2 → AvoidP cx.bad Δ2 →
      ∃ X Δ3, erase (Δ2 ++ eraseAsg σ new'') x'' = (X, Δ3 ++ (Δ2 ++ eraseAsg σ new'')) ∧ ESim X e ∧ Win lo hi Δ3)

theorem opEr_inplace (cx : Cx) (lo hi : Nat) (e' e : Node) (asg args more : List Node) (s : St)
    (hE : Er cx lo hi e' e) (hm : InertL more) (hnb : noBlkL more = true) :
    OpEr cx lo hi e asg args ((e', asg, args ++ more), s) s := by
  refine ⟨[], more, by simp, rfl, AllTA.nil, hm, hnb, Nat.le_refl _, ?_, ?_⟩
  · intro new'' hn σ _
    rw [BRgL.nil_inv hn]
    exact ⟨[], rfl, WinU.nil _ _ _ _⟩
  · intro new'' x'' hn hx σ Δ2 hσ _ ha
    rw [BRgL.nil_inv hn]
    simp only [eraseAsg]
    exact hE x'' hx (Δ2 ++ σ) (Cx.ext_append hσ ha)

theorem erase_tempAssign (σ : Env) (k : Nat) (r : Node) (sp : Span) :
    erase σ (.assign "=" (tempIdent k) r sp) =
      (unSpread (erase σ r).1, (k, unSpread (erase σ r).1) :: (erase σ r).2) := by
  simp only [tempIdent, erase, tempTarget?]

theorem dummy_isDummy : Span.dummy.isDummy = true := by decide

theorem erase_assignRight (σ σ1 : Env) (e' X : Node) (kind : IdentKind) (h : erase σ e' = (X, σ1)) (hn : noSp X) :
    unSpread (erase σ (assignRight e' kind)).1 = X ∧ (erase σ (assignRight e' kind)).2 = σ1 := by
  cases kind with
  | expr =>
    refine ⟨?_, ?_⟩
    · simp only [assignRight, h]; exact noSp_unSpread hn
    · simp only [assignRight, h]
  | spread =>
    simp only [assignRight, erase, eraseL, h]
    simp [unSpread, dummy_isDummy]

theorem erase_temp (σ : Env) (k : Nat) (sp : Span) : erase σ (.ident (.temp k) sp) = ((σ.get k).getD (.ident (.temp k) sp), σ) := by
  simp only [erase]

theorem WinU.cons_key {lo hi k0 k1 k : Nat} {Δ : Env} (v : Node) (h : Win lo hi Δ) (h1 : k0 ≤ k) (h2 : k < k1) :
    WinU lo hi k0 k1 ((k, v) :: Δ) := by
  intro p hp
  rcases List.mem_cons.mp hp with hp | hp
  · rw [hp]; exact Or.inr ⟨h1, h2⟩
  · exact Or.inl (h p hp)

/-- a temporary of the window `[a, b)` is read back under later bindings that stay out of the window -/
theorem erase_temp_bound {a b k : Nat} {Δ2 : Env} (hav : Avoid a b Δ2) (h1 : a ≤ k) (h2 : k < b) (v : Node) (σ : Env) :
    erase (Δ2 ++ (k, v) :: σ) (tempIdent k) = (v, Δ2 ++ (k, v) :: σ) := by
  simp only [tempIdent, erase_temp]
  rw [Env.get_append_of_notin _ _ _ (by intro p hp; have := hav p hp; omega), Env.get_cons_same]
  rfl

theorem assignRight_BRg_inv {e' r'' : Node} {kind : IdentKind} (h : BRg (assignRight e' kind) r'') :
    ∃ e'', r'' = assignRight e'' kind ∧ BRg e' e'' := by
  cases kind with
  | expr => exact ⟨r'', rfl, h⟩
  | spread =>
    simp only [assignRight] at h
    obtain ⟨es', rfl, hes⟩ := h.array_inv
    obtain ⟨a', rfl, ha⟩ := BRgL.single_inv hes
    obtain ⟨e'', rfl, he⟩ := ha.arg_inv
    exact ⟨e'', rfl, he⟩

/-- a replacement inside `t = operand` only touches the operand -/
theorem tempAssign_BRg_inv {k : Nat} {e' a'' : Node} {kind : IdentKind} {sp : Span}
    (h : BRg (.assign "=" (tempIdent k) (assignRight e' kind) sp) a'') :
    ∃ e'', a'' = .assign "=" (tempIdent k) (assignRight e'' kind) sp ∧ BRg e' e'' := by
  obtain ⟨l', r', rfl, hl, hr⟩ := h.assign_inv
  rw [BRg_noBlk (noBlk_tempIdent k) hl]
  obtain ⟨e'', rfl, he⟩ := assignRight_BRg_inv hr
  exact ⟨e'', rfl, he⟩

theorem noBlk_argE {s : Option Span} {e : Node} (h : noBlk e = true) : noBlk (.arg s e) = true := by
  rw [noBlk_eq]
  simp only [isBlockNode, kids, noBlkL_cons, noBlkL_nil, h]
  rfl

theorem noBlk_exprOrSpreadE {e : Node} (k : IdentKind) (h : noBlk e = true) : noBlk (exprOrSpread e k) = true := by
  cases k <;> exact noBlk_argE h

theorem allTA_single (k : Nat) (r : Node) (sp : Span) : AllTA [Node.assign "=" (tempIdent k) r sp] := by
  intro a ha
  rw [List.mem_singleton.mp ha]
  simp [isTempAssign, tempIdent]

/-- the assignment that hoists `e'` into the temporary `k` binds `k` to what `e'` erases to -/
theorem tempAssign_Er {cx : Cx} {lo hi : Nat} {e' e : Node} (hE : Er cx lo hi e' e) (k : Nat) (kind : IdentKind) (sp : Span) :
    ∀ a'', BRg (.assign "=" (tempIdent k) (assignRight e' kind) sp) a'' → ∀ σ, cx.ext σ →
      ∃ X Δe, erase σ a'' = (X, (k, X) :: (Δe ++ σ)) ∧ ESim X e ∧ Win lo hi Δe := by
  intro a'' ha σ hσ
  obtain ⟨e'', rfl, he⟩ := tempAssign_BRg_inv ha
  obtain ⟨X, Δe, h1, h2, h3⟩ := hE e'' he σ hσ
  obtain ⟨a, b⟩ := erase_assignRight σ (Δe ++ σ) e'' X kind h1 h2.2.2
  exact ⟨X, Δe, by rw [erase_tempAssign, a, b], h2, h3⟩

theorem opEr_hoist (cx : Cx) (lo hi : Nat) (e' e : Node) (asg args : List Node) (sp : Span) (kind : IdentKind) (s s' : St)
    (hw : HypW cx hi s) (hE : Er cx lo hi e' e) (hc : s'.counter = s.counter + 1) :
    OpEr cx lo hi e asg args
      ((tempIdent s.counter, asg ++ [.assign "=" (tempIdent s.counter) (assignRight e' kind) sp],
        args ++ [exprOrSpread (tempIdent s.counter) kind]), s') s := by
  have hlt : s.counter < s'.counter := by rw [hc]; exact Nat.lt_succ_self _
  have key : ∀ new'', BRgL [Node.assign "=" (tempIdent s.counter) (assignRight e' kind) sp] new'' →
      ∀ σ, cx.ext σ → ∃ X Δe, eraseAsg σ new'' = (s.counter, X) :: (Δe ++ σ) ∧ ESim X e ∧ Win lo hi Δe := by
    intro new'' hn σ hσ
    obtain ⟨a'', rfl, ha⟩ := BRgL.single_inv hn
    obtain ⟨X, Δe, h1, h2, h3⟩ := tempAssign_Er hE _ kind sp a'' ha σ hσ
    exact ⟨X, Δe, by simp only [eraseAsg, h1], h2, h3⟩
  refine ⟨_, _, rfl, rfl, allTA_single _ _ _, inertL_single (inert_exprOrSpread kind (inert_temp _ _)),
    by simp [noBlk_exprOrSpreadE kind (noBlk_tempIdent _)], Nat.le_of_lt hlt, ?_, ?_⟩
  · intro new'' hn σ hσ
    obtain ⟨X, Δe, h1, _, h3⟩ := key new'' hn σ hσ
    exact ⟨(s.counter, X) :: Δe, by rw [h1]; rfl, WinU.cons_key X h3 (Nat.le_refl _) hlt⟩
  · intro new'' x'' hn hx σ Δ2 hσ hav _
    dsimp only at hav hx
    rw [BRg_noBlk (noBlk_tempIdent _) hx]
    obtain ⟨X, Δe, h1, h2, _⟩ := key new'' hn σ hσ
    rw [h1]
    exact ⟨X, [], erase_temp_bound hav (Nat.le_refl _) hlt X _, h2, Win.nil _ _⟩

theorem getTemporalIdent_casesC (operand : Node) (asg : List Node) (sp : Span) (k : IdentKind) (s : St) :
    (operand.isLit = true ∧ getTemporalIdent operand asg sp k s = ((none, asg), s)) ∨
    (operand.isLit = false ∧ ∃ s', getTemporalIdent operand asg sp k s =
        ((some s.counter, asg ++ [.assign "=" (tempIdent s.counter) (assignRight operand k) sp]), s') ∧
        s'.counter = s.counter + 1) := by
  unfold getTemporalIdent
  by_cases hl : operand.isLit = true
  · left; simp [hl, run_pure]
  · right
    simp only [Bool.not_eq_true] at hl
    refine ⟨hl, ?_⟩
    simp only [hl, Bool.false_eq_true, if_false, run_bind, run_pure]
    refine ⟨_, rfl, ?_⟩
    simp only [nextIdent, registerIdent, run_modifyGet, run_modify]
    by_cases hc : s.counter ∈ s.idents <;> simp [hc]

theorem getIdentUsed_casesC (operand : Node) (asg args : List Node) (sp : Span) (k : IdentKind) (s : St) :
    (operand.isLit = true ∧ getIdentUsed operand asg args sp k s = ((none, asg, args ++ [exprOrSpread operand k]), s)) ∨
    (operand.isLit = false ∧ ∃ s', getIdentUsed operand asg args sp k s =
        ((some s.counter, asg ++ [.assign "=" (tempIdent s.counter) (assignRight operand k) sp],
          args ++ [exprOrSpread (tempIdent s.counter) k]), s') ∧ s'.counter = s.counter + 1) := by
  unfold getIdentUsed
  rcases getTemporalIdent_casesC operand asg sp k s with ⟨hl, h⟩ | ⟨hl, s', h, hc⟩
  · left; simp [hl, run_bind, run_pure, h]
  · right; exact ⟨hl, s', by simp [run_bind, run_pure, h], hc⟩

theorem replaceDefault_Er (cx : Cx) (lo hi : Nat) (e' e : Node) (asg args : List Node) (sp : Span) (kind : IdentKind) (s : St)
    (hw : HypW cx hi s) (hE : Er cx lo hi e' e) :
    OpEr cx lo hi e asg args (replaceDefault e' asg args sp kind s) s := by
  unfold replaceDefault
  simp only [run_bind, run_pure]
  rcases getIdentUsed_casesC e' asg args sp kind s with ⟨hl, h⟩ | ⟨_, s', h, hc⟩
  · rw [h]
    exact opEr_inplace cx lo hi e' e asg args _ s hE (inertL_single (inert_exprOrSpread kind (inert_lit hl)))
      (by simp [noBlk_exprOrSpreadE kind (isLit_noBlk hl)])
  · rw [h]
    exact opEr_hoist cx lo hi e' e asg args sp kind s s' hw hE hc

theorem inert_user (x : String) (sp : Span) : Inert (.ident (.user x) sp) := by intro σ; simp [erase]

theorem inert_ident {e : Node} (h : e.isIdent = true) : Inert e := by
  cases e with
  | ident nm sp => cases nm with
    | user x => exact inert_user x sp
    | temp k => exact inert_temp k sp
  | _ => simp [Node.isIdent] at h

theorem inert_litSum : ∀ e : Node, isLiteralSum e = true → Inert e := by
  apply Node.ind
  intro e ih h
  cases e with
  | lit k v r sp => exact inert_lit rfl
  | bin op l r sp =>
    simp only [isLiteralSum, Bool.and_eq_true] at h
    show ∀ σ, (erase σ (Node.bin op l r sp)).2 = σ
    intro σ
    have h1 := ih l (by simp [kids]) h.1.2 σ
    have h2 := ih r (by simp [kids]) h.2 σ
    show (erase (erase σ l).2 r).2 = σ
    rw [h1]; exact h2
  | _ => simp [isLiteralSum] at h

theorem replaceExprNoExpand_Er (cx : Cx) (lo hi : Nat) (e' e : Node) (mode : IdentMode) (asg args : List Node) (sp : Span)
    (kind : IdentKind) (s : St) (hw : HypW cx hi s) (hE : Er cx lo hi e' e) :
    OpEr cx lo hi e asg args (replaceExprNoExpand e' mode asg args sp kind s) s := by
  have keep : ∀ a : Node, Er cx lo hi a e → Inert a → noBlk a = true →
      OpEr cx lo hi e asg args ((a, asg, args ++ [exprOrSpread a kind]), s) s :=
    fun a hE ha hb => opEr_inplace cx lo hi a e asg args _ s hE (inertL_single (inert_exprOrSpread kind ha))
      (by simp [noBlk_exprOrSpreadE kind hb])
  unfold replaceExprNoExpand
  split
  · exact keep _ hE (inert_lit rfl) (isLit_noBlk rfl)
  · split
    · exact replaceDefault_Er cx lo hi _ e asg args sp kind s hw hE
    · exact keep _ hE (inert_ident rfl) (noBlk_ident _ _)
  · split
    · exact replaceDefault_Er cx lo hi _ e asg args sp kind s hw hE
    · split
      · rename_i hls
        exact keep _ hE (inert_litSum _ hls) (isLiteralSum_noBlk _ hls)
      · have := opEr_inplace cx lo hi _ e asg args [] s hE InertL.nil rfl
        simpa [run_pure] using this
  · exact replaceDefault_Er cx lo hi _ e asg args sp kind s hw hE

end IastModel
