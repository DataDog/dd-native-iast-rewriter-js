import IastModel.Lemmas.KeepArrow
/-
  The coverage theorems count hook calls (`cq (qAt d sp0)`); the coverage oracle (`uncovered`) looks an
  occurrence up in `hookSites`.  This file reads the one in the vocabulary of the other.
-/
namespace IastModel
open Node

/-- a node satisfying `p` and `q` is counted ⇒ some collected node of `p` satisfies `q` -/
theorem Node.count_pos_collect (p q : Node → Bool) : ∀ n : Node, 1 ≤ Node.count (fun k => p k && q k) n →
    ∃ x ∈ Node.collect p n, q x = true := by
  apply Node.ind
  intro n ih h
  rw [Node.count_eq] at h
  rw [Node.collect_eq]
  by_cases hn : (p n && q n) = true
  · simp only [Bool.and_eq_true] at hn
    exact ⟨n, by simp [hn.1], hn.2⟩
  · simp only [hn, Bool.false_eq_true, if_false, Nat.zero_add] at h
    -- one of the children
    have := exists_pos_of_sum_map_pos (Node.count fun k => p k && q k) h
    obtain ⟨k, hk, h1⟩ := this
    obtain ⟨x, hx, hq⟩ := ih k hk h1
    refine ⟨x, ?_, hq⟩
    simp only [List.mem_append, List.mem_flatten, List.mem_map]
    exact Or.inr ⟨_, ⟨k, hk, rfl⟩, hx⟩

theorem hookSites_eq (out : Node) : hookSites out = (hooks out).filterMap hookSiteOf := by
  unfold hookSites
  congr 1

/-- a counted hook call of the site `(d, sp0)` is one of the output's hook sites, as the oracle lists them -/
theorem hookSite_of_cq (d : String) (sp0 : Span) (out : Node) (h : 1 ≤ cq (qAt d sp0) out) :
    (d, sp0) ∈ hookSites out := by
  obtain ⟨x, hx, hq⟩ := Node.count_pos_collect isHook (qAt d sp0) out h
  rw [hookSites_eq]
  simp only [List.mem_filterMap]
  refine ⟨x, hx, ?_⟩
  simpa only [qAt, decide_eq_true_eq] using hq

end IastModel
