import IastModel.Lemmas.CqCount
/-
  `cv`: the number of hook sites that do not mirror their operation (`badSite` = `!siteOKb`, `siteOKb` the decidable form of `MirOK`).
-/
namespace IastModel
open Node

/-- decidable form of `MirOK` -/
def siteOKb (cfg : Config) (h : Node) : Bool :=
  match argsMirrorSite cfg h with
  | none => true
  | some c => c == sumClass cfg "plus" || c == sumClass cfg "tpl" || c == sumClass cfg "call"

theorem siteOKb_of_MirOK {cfg : Config} {h : Node} (hm : MirOK cfg h) : siteOKb cfg h = true := by
  unfold siteOKb
  rcases hm with hm | ⟨w, hw, hm⟩
  · rw [hm]
  · rw [hm]
    rcases hw with rfl | rfl | rfl <;> simp

theorem MirOK_of_siteOKb {cfg : Config} {h : Node} (hm : siteOKb cfg h = true) : MirOK cfg h := by
  unfold siteOKb at hm
  unfold MirOK
  split at hm
  · left; assumption
  · rename_i c hc
    right
    simp only [Bool.or_eq_true, beq_iff_eq] at hm
    rcases hm with (hm | hm) | hm
    · exact ⟨"plus", Or.inl rfl, by rw [hc, hm]⟩
    · exact ⟨"tpl", Or.inr (Or.inl rfl), by rw [hc, hm]⟩
    · exact ⟨"call", Or.inr (Or.inr rfl), by rw [hc, hm]⟩

def badSite (cfg : Config) (h : Node) : Bool := !siteOKb cfg h

/-- the number of hook sites of a tree that do not mirror their operation -/
def cv (cfg : Config) (n : Node) : Nat := cq (badSite cfg) n

theorem badSite_of_MirOK {cfg : Config} {h : Node} (hm : MirOK cfg h) : badSite cfg h = false := by
  simp [badSite, siteOKb_of_MirOK hm]

theorem lastOf_eq_of_ddParen {e' first : Node} {args asg : List Node} {name : String} {sp : Span}
    (h : e' = ddParen first args asg name sp) : lastOf e' = ddCall first args name sp := by
  rw [h, lastOf_ddParen]

end IastModel
