import IastModel.Lemmas.TempsVisit
import IastModel.Lemmas.DirectivePass
import IastModel.Spec.Scope
namespace IastModel
open Node

/-- the declaration lists exactly the registered temporaries, in order -/
theorem letDecl_declares' (ids : List Nat) (sp : Span) (h : ids ≠ []) :
    injectedLet? (letDecl ids sp) = some ids := by
  unfold letDecl injectedLet?
  simp only [List.map_map]
  have hm : (List.map (declaratorTemp? ∘ fun n => Node.other "VariableDeclarator" sp ["id", "init", "definite"]
      [tempIdent n, Node.atom "null", Node.atom "false"]) ids) = ids.map some := by
    apply List.map_congr_left
    intro n _
    rfl
  rw [hm]
  have h1 : (ids.map some).isEmpty = false := by cases ids <;> simp_all
  have h2 : (ids.map some).all Option.isSome = true := by simp
  simp [h1, h2, List.filterMap_map]

/-- the temporaries declared by injected `let` statements directly in a statement list -/
def declaredAny (ss : List Node) : List Nat := (ss.filterMap injectedLet?).flatten

/-- every temporary is declared where it is used: outside block statements it must be one of `σ`; a
    block statement is checked against the injected `let`s among its own statements -/
def declOK (σ : List Nat) (n : Node) : Bool :=
  if isBlockNode n then n.kids.attach.all fun k => declOK (declaredAny n.kids) k.1
  else tempIn σ n && n.kids.attach.all fun k => declOK σ k.1
termination_by sizeOf n
decreasing_by
  · exact Node.sizeOf_lt_of_mem_kids k.2
  · exact Node.sizeOf_lt_of_mem_kids k.2

def declOKL (σ : List Nat) (l : List Node) : Bool := l.all (declOK σ)

theorem declOK_block (σ) (ss : List Node) (sp : Span) : declOK σ (.block ss sp) = declOKL (declaredAny ss) ss := by
  rw [declOK]
  simp only [isBlockNode, if_true, kids]
  rw [Node.attach_all_eq]; rfl

theorem declOK_generic (σ) (n : Node) (hb : isBlockNode n = false) : declOK σ n = (tempIn σ n && declOKL σ n.kids) := by
  rw [declOK]
  simp only [hb, Bool.false_eq_true, if_false]
  rw [Node.attach_all_eq]; rfl

theorem declOKL_iff {σ} {l : List Node} : declOKL σ l = true ↔ ∀ k ∈ l, declOK σ k = true := by
  unfold declOKL; exact List.all_eq_true

@[simp] theorem declOKL_nil (σ) : declOKL σ [] = true := rfl
@[simp] theorem declOKL_cons (σ) (x : Node) (xs : List Node) : declOKL σ (x :: xs) = (declOK σ x && declOKL σ xs) := by
  simp [declOKL]
@[simp] theorem declOKL_append (σ) (xs ys : List Node) : declOKL σ (xs ++ ys) = (declOKL σ xs && declOKL σ ys) := by
  simp [declOKL, List.all_append]

theorem declOK_mono {σ σ' : List Nat} (hs : ∀ k ∈ σ, k ∈ σ') : ∀ n : Node, declOK σ n = true → declOK σ' n = true := by
  apply Node.ind
  intro n ih h
  by_cases hb : isBlockNode n = true
  · obtain ⟨ss, sp, rfl⟩ := isBlockNode_eq hb
    rw [declOK_block] at h ⊢; exact h
  · rw [Bool.not_eq_true] at hb
    rw [declOK_generic _ _ hb, Bool.and_eq_true] at h ⊢
    exact ⟨tempIn_mono hs n h.1, declOKL_iff.mpr fun k hk => ih k hk (declOKL_iff.mp h.2 k hk)⟩

theorem declOKL_mono {σ σ' : List Nat} (hs : ∀ k ∈ σ, k ∈ σ') (l : List Node) (h : declOKL σ l = true) : declOKL σ' l = true :=
  declOKL_iff.mpr fun k hk => declOK_mono hs k (declOKL_iff.mp h k hk)

/-- a tree without temporaries is fine everywhere -/
theorem declOK_of_nt0 : ∀ (n : Node) (σ : List Nat), nt n = 0 → declOK σ n = true := by
  apply Node.ind
  intro n ih σ h0
  have hk : ∀ σ', declOKL σ' n.kids = true := fun σ' =>
    declOKL_iff.mpr fun k hk => ih k hk σ' (ntL_eq_zero _ (ntL_kids_of_nt0 h0) k hk)
  by_cases hb : isBlockNode n = true
  · obtain ⟨ss, sp, rfl⟩ := isBlockNode_eq hb
    rw [declOK_block]; exact hk _
  · rw [Bool.not_eq_true] at hb
    rw [declOK_generic _ _ hb, tempIn_of_not_temp σ n (isTempIdent_of_nt0 h0), hk]; rfl

/-- an unprocessed tree that is good for `σ` has every temporary declared (its closed parts contain none) -/
theorem tgood_declOK (σ) : ∀ n : Node, tgood σ n = true → declOK σ n = true := by
  apply Node.ind
  intro n ih h
  by_cases hc : isClosed n = true
  · rw [tgood_closed hc, beq_iff_eq] at h
    exact declOK_of_nt0 n σ h
  · rw [Bool.not_eq_true] at hc
    have hb : isBlockNode n = false := by
      rw [isClosed, Bool.or_eq_false_iff] at hc; exact hc.1
    rw [declOK_generic _ _ hb, tgood_tempIn h]
    exact declOKL_iff.mpr fun k hk => ih k hk (tgoodL_iff.mp (tgood_kids h) k hk)


def nblocks (n : Node) : Nat := Node.count isBlockNode n
def nblocksL (l : List Node) : Nat := (l.map nblocks).sum

theorem nblocks_eq (n : Node) : nblocks n = (if isBlockNode n then 1 else 0) + nblocksL n.kids := by
  unfold nblocksL
  show Node.count isBlockNode n = _
  rw [Node.count_eq]; rfl

theorem nblocksL_eq_zero : ∀ (l : List Node), nblocksL l = 0 → ∀ k ∈ l, nblocks k = 0 := by
  intro l
  induction l with
  | nil => intro _ k hk; cases hk
  | cons x xs ih =>
    intro h k hk
    simp only [nblocksL, List.map_cons, List.sum_cons] at h
    rcases List.mem_cons.mp hk with rfl | hk
    · omega
    · exact ih (by unfold nblocksL; omega) k hk

/-- the block visitor returns a tree without block statements as it is -/
theorem blockVisit_fix (cfg : Config) (opFuel : Nat) : ∀ (f : Nat) (n : Node) (s : St), nblocks n = 0 →
    (blockVisit cfg opFuel f n s).1 = n := by
  intro f
  induction f with
  | zero => intro n s _; simp [blockVisit, run_bind, run_pure]
  | succ f ih =>
    intro n s h0
    rw [nblocks_eq] at h0
    have hb : isBlockNode n = false := by cases hh : isBlockNode n <;> simp_all
    rw [blockVisit_generic cfg opFuel f n hb]
    simp only [mapKidsM, run_bind, run_pure]
    rw [mapM'_id _ n.kids s (fun x hx st => ih x st (nblocksL_eq_zero _ (by omega) x hx))]
    exact Node.withKids_kids n

theorem letDecl_nblocks (ids : List Nat) (sp : Span) : nblocks (letDecl ids sp) = 0 := by
  have h1 : ∀ l : List Nat, nblocksL (l.map fun n => Node.other "VariableDeclarator" sp ["id", "init", "definite"]
      [tempIdent n, .atom "null", .atom "false"]) = 0 := by
    intro l; induction l with
    | nil => rfl
    | cons x xs ih =>
      simp only [nblocksL, List.map_cons, List.sum_cons] at ih ⊢
      rw [ih]
      simp [nblocks_eq, nblocksL, isBlockNode, kids, tempIdent]
  simp only [letDecl]
  rw [nblocks_eq]
  simp only [isBlockNode, kids, nblocksL, List.map_cons, List.sum_cons, List.map_nil, List.sum_nil]
  rw [nblocks_eq (.atom _), nblocks_eq (.atom _), nblocks_eq (.arr _)]
  simp only [isBlockNode, kids]
  have := h1 ids
  simp only [nblocksL, List.map_map] at this ⊢
  simp [this]

theorem letDecl_tgood (σ : List Nat) (ids : List Nat) (sp : Span) (h : ∀ k ∈ ids, k ∈ σ) : tgood σ (letDecl ids sp) = true := by
  have h1 : ∀ l : List Nat, (∀ k ∈ l, k ∈ σ) → tgoodL σ (l.map fun n => Node.other "VariableDeclarator" sp ["id", "init", "definite"]
      [tempIdent n, .atom "null", .atom "false"]) = true := by
    intro l; induction l with
    | nil => intro _; rfl
    | cons x xs ih =>
      intro hl
      simp only [List.map_cons, tgoodL_cons, tgood_other, tgoodL_nil, tempIdent, tgood_temp, tgood_atom, Bool.and_true, Bool.and_eq_true]
      exact ⟨by simpa using hl x (by simp), ih (fun k hk => hl k (by simp [hk]))⟩
  simp [letDecl, h1 ids h]

theorem mem_mapM'_fix (g : Node → M Node) (x : Node) (hx : ∀ st, (g x st).1 = x) :
    ∀ (xs : List Node) (s : St), x ∈ xs → x ∈ (mapM' g xs s).1 := by
  intro xs
  induction xs with
  | nil => intro s h; cases h
  | cons y ys ih =>
    intro s h
    simp only [mapM', run_bind, run_pure]
    rcases List.mem_cons.mp h with rfl | h
    · rw [hx s]; simp
    · exact List.mem_cons_of_mem _ (ih _ h)

theorem declaredAny_mem (ss : List Node) (ids : List Nat) (sp : Span) (hne : ids ≠ []) (h : letDecl ids sp ∈ ss) :
    ∀ k ∈ ids, k ∈ declaredAny ss := by
  intro k hk
  unfold declaredAny
  simp only [List.mem_flatten, List.mem_filterMap]
  exact ⟨ids, ⟨letDecl ids sp, h, letDecl_declares' ids sp hne⟩, hk⟩


/-- what the block visitor guarantees about declarations, when the run is not cancelled -/
def BT (σ : List Nat) (R : Node × St) : Prop := StOk R.2 → declOK σ R.1 = true

theorem mapBlock_T (σ : List Nat) (g : Node → M Node)
    (hb : ∀ k s, StOk s → tgood σ k = true → BT σ (g k s))
    (hc : ∀ k s, s.status = .cancelled → (g k s).2.status = .cancelled) :
    ∀ (ks : List Node) (s : St), StOk s → tgoodL σ ks = true → StOk (mapM' g ks s).2 →
      declOKL σ (mapM' g ks s).1 = true ∧ (mapM' g ks s).1.length = ks.length := by
  intro ks
  induction ks with
  | nil => intro s _ _ _; exact ⟨rfl, rfl⟩
  | cons x xs ih =>
    intro s hs hg hfin
    rw [tgoodL_cons, Bool.and_eq_true] at hg
    simp only [mapM', run_bind, run_pure] at hfin ⊢
    -- a cancelled run stays cancelled, so the run was not cancelled after the first element either
    have hs1 : StOk (g x s).2 := fun hcn => hfin (mapM'_canc g hc xs _ hcn)
    obtain ⟨g2, l2⟩ := ih _ hs1 hg.2 hfin
    exact ⟨by rw [declOKL_cons, hb x s hs hg.1 hs1, g2]; rfl, by rw [List.length_cons, l2]; rfl⟩

theorem mapKidsBlock_T (σ : List Nat) (g : Node → M Node)
    (hb : ∀ k s, StOk s → tgood σ k = true → BT σ (g k s))
    (hc : ∀ k s, s.status = .cancelled → (g k s).2.status = .cancelled)
    (n : Node) (s : St) (hs : StOk s) (hn : isBlockNode n = false) (hg : tgood σ n = true) :
    BT σ (mapKidsM mapM' g n s) := by
  simp only [mapKidsM, run_bind, run_pure]
  intro hfin
  obtain ⟨g3, hl⟩ := mapBlock_T σ g hb hc n.kids s hs (tgood_kids hg) hfin
  rw [declOK_generic _ _ (isBlockNode_withKids n _ ▸ hn), Node.kids_withKids n _ hl, tempIn_withKids, tgood_tempIn hg, g3]
  rfl

theorem insertVar_T (σ : List Nat) (idents : List Nat) (ks : List Node) (sp : Span) (hg : tgoodL σ ks = true)
    (hi : ∀ k ∈ idents, k ∈ σ) :
    ∃ ks2, insertVariableDeclaration idents (.block ks sp) = .block ks2 sp ∧ tgoodL σ ks2 = true ∧
      (idents ≠ [] → letDecl idents sp ∈ ks2) := by
  simp only [insertVariableDeclaration]
  by_cases he : idents.isEmpty = true
  · exact ⟨ks, by rw [if_pos he], hg, fun hne => absurd (List.isEmpty_iff.mp he) hne⟩
  · refine ⟨insertAt ks (variableInsertionIndex ks) [letDecl idents sp], by rw [if_neg he], ?_, fun _ => by simp [insertAt]⟩
    rw [← List.take_append_drop (variableInsertionIndex ks) ks, tgoodL_append, Bool.and_eq_true] at hg
    simp [insertAt, hg.1, hg.2, letDecl_tgood σ idents sp hi]

/-- **C06, declarations, per block through the whole pass.**  From a tree whose nested blocks and
    arrow functions are still free of temporaries (in particular from any source tree), unless the
    rewrite is cancelled, the block visitor produces a tree in which every temporary occurring in the
    own region of a block statement is declared by an injected `let` among that block's own
    statements, and every temporary outside all blocks is one of `σ`. -/
theorem blockVisit_T (cfg : Config) (opFuel : Nat) : ∀ (f : Nat) (σ : List Nat) (n : Node) (s : St),
    StOk s → tgood σ n = true → BT σ (blockVisit cfg opFuel f n s) := by
  intro f
  induction f with
  | zero =>
    intro σ n s _ hg _
    simp only [blockVisit, run_bind, run_pure]
    exact tgood_declOK σ n hg
  | succ f ih =>
    intro σ n s hs hg
    have hcanc := fun k s h => blockVisit_canc cfg opFuel f k s h
    by_cases hb : isBlockNode n = true
    · obtain ⟨ss, sp, rfl⟩ := isBlockNode_eq hb
      rw [tgood_block, beq_iff_eq] at hg
      rw [blockVisit_block cfg opFuel f ss sp s hs]
      -- the operation visitor runs over the statements with a fresh provider
      obtain ⟨g, -, -⟩ := mapVisit_T (visit cfg opFuel true) (visit_T cfg opFuel true) ss (resetProvider s)
        (tgoodL_of_nt0 _ ss hg)
      have hK : mapKidsM mapM' (visit cfg opFuel true) (.block ss sp) (resetProvider s) =
          (.block (mapM' (visit cfg opFuel true) ss (resetProvider s)).1 sp, (mapM' (visit cfg opFuel true) ss (resetProvider s)).2) := rfl
      rw [hK]
      generalize mapM' (visit cfg opFuel true) ss (resetProvider s) = K at g
      obtain ⟨ks', s1⟩ := K
      dsimp only at g ⊢
      split
      · exact fun hfin => absurd rfl hfin
      · obtain ⟨ks2, hins, g2, hmem⟩ := insertVar_T s1.idents s1.idents ks' sp g (fun k hk => hk)
        rw [hins]
        simp only [mapKidsM, kids, run_bind, run_pure, withKids]
        intro hfin
        -- the operation visitor never cancels: the run was not cancelled at the end
        have hs1 : StOk s1 := fun hcn => hfin (mapM'_canc _ hcanc ks2 s1 hcn)
        have g3 := (mapBlock_T s1.idents (blockVisit cfg opFuel f) (ih s1.idents) hcanc ks2 s1 hs1 g2 hfin).1
        rw [declOK_block]
        refine declOKL_mono ?_ _ g3
        by_cases hne : s1.idents = []
        · rw [hne]; exact fun _ hk => (List.not_mem_nil hk).elim
        · exact declaredAny_mem _ s1.idents sp hne
            (mem_mapM'_fix _ _ (fun st => blockVisit_fix cfg opFuel f _ st (letDecl_nblocks _ _)) ks2 s1 (hmem hne))
    · rw [Bool.not_eq_true] at hb
      rw [blockVisit_generic cfg opFuel f n hb]
      exact mapKidsBlock_T σ _ (ih σ) hcanc n s hs hb hg


theorem nt_prologue (dsts : List String) : ∀ q ∈ prologue dsts, nt q = 0 := by
  have hmap : ∀ l : List String, countL isTempIdent (l.map fun k => Node.other "KeyValueProperty" pd ["key", "value"]
      [.pname k pd, .ident (.user "noop") pd]) = 0 := by
    intro l
    induction l with
    | nil => rfl
    | cons x xs ih =>
      rw [List.map_cons, countL_cons, ih, count_other, countL_cons, countL_cons, countL_nil, count_pname, count_ident]
      rfl
  intro q hq
  simp only [prologue, List.mem_cons, List.not_mem_nil, or_false] at hq
  rcases hq with rfl | rfl
  · exact (count_other isTempIdent _ _ _ _).trans rfl
  · show count isTempIdent _ = 0
    simp only [count_ifStmt, count_bin, count_unary, count_exprStmt, count_paren, count_call, count_other, count_arg,
      count_seq, count_arr, count_arrow, count_block, count_member, count_assign, count_lit, count_atom, count_pname,
      puid, count_ident, countL_cons, countL_nil, hmap, isTempIdent, Bool.false_eq_true, if_false, Nat.add_zero]

theorem declOK_insertPrologue (σ : List Nat) (pro : List Node) (p : Node) (hp : ∀ q ∈ pro, nt q = 0)
    (h : declOK σ p = true) : declOK σ (insertPrologue pro p) = true := by
  unfold insertPrologue
  split
  · rename_i k sp ns body vs
    rw [declOK_generic _ _ rfl] at h ⊢
    simp only [kids, declOKL_cons, Bool.and_eq_true] at h ⊢
    refine ⟨h.1, ?_, h.2.2⟩
    have hb := h.2.1
    rw [declOK_generic _ _ rfl] at hb ⊢
    simp only [kids, Bool.and_eq_true] at hb ⊢
    refine ⟨hb.1, ?_⟩
    have hpro : declOKL σ pro = true := by
      unfold declOKL
      rw [List.all_eq_true]
      intro q hq
      exact declOK_of_nt0 q σ (hp q hq)
    have h12 : declOKL σ (body.take (variableInsertionIndex body)) = true ∧ declOKL σ (body.drop (variableInsertionIndex body)) = true := by
      have := hb.2
      rw [← List.take_append_drop (variableInsertionIndex body) body, declOKL_append, Bool.and_eq_true] at this
      exact this
    simp [insertAt, hpro, h12.1, h12.2]
  · exact h

/-- **C06 (declarations), for the whole pipeline.**  For every configuration, fuel and program that
    contains no identifier of the reserved temporary form, unless the rewrite is refused: every
    temporary of the output that occurs in the own region of a block statement is declared by an
    injected `let` among that block's own statements, and no temporary occurs outside all blocks. -/
theorem temporaries_declared_master (cfg : Config) (fuel : Nat) (p : Node) (h0 : nt p = 0)
    (hnc : (transformProgram cfg fuel p).status ≠ .cancelled) :
    declOK [] (transformProgram cfg fuel p).out = true := by
  obtain ⟨hnc, _, _, hout, _⟩ := transformProgram_run cfg fuel p hnc
  have hs0 : StOk ({} : St) := fun h => nomatch h
  have hbv := fun k s hs hg => blockVisit_T cfg fuel fuel [] k s hs hg
  have hcanc := fun k s h => blockVisit_canc cfg fuel fuel k s h
  have hp1 : declOK [] (mapKidsM mapM' (blockVisit cfg fuel fuel) p {}).1 = true := by
    by_cases hb : isBlockNode p = true
    · obtain ⟨ss, sp, rfl⟩ := isBlockNode_eq hb
      simp only [mapKidsM, run_bind, run_pure] at hnc ⊢
      rw [withKids, declOK_block]
      exact declOKL_mono (fun _ hk => (List.not_mem_nil hk).elim) _
        (mapBlock_T [] _ hbv hcanc ss {} hs0 (tgoodL_of_nt0 [] ss (ntL_kids_of_nt0 h0)) hnc).1
    · exact mapKidsBlock_T [] _ hbv hcanc p {} hs0 (Bool.not_eq_true _ ▸ hb) (tgood_of_nt0 [] p h0) hnc
  rw [hout]
  split
  · exact declOK_insertPrologue [] _ _ (nt_prologue cfg.dsts) hp1
  · exact hp1

end IastModel
