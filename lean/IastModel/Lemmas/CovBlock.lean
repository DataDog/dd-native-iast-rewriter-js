import IastModel.Lemmas.CovVisit
namespace IastModel
open Node

theorem hookSiteOf_args (c : Node) (as as' : List Node) (sp : Span) :
    hookSiteOf (.call c as' sp) = hookSiteOf (.call c as sp) := by
  by_cases hm : ∃ o name psp msp, c = .member o (.pname name psp) msp
  · obtain ⟨o, name, psp, msp, rfl⟩ := hm; rfl
  · have none : ∀ as, hookSiteOf (.call c as sp) = none := by
      intro as
      unfold hookSiteOf
      split
      · rename_i h; injection h with h; exact absurd ⟨_, _, _, _, h⟩ hm
      · rfl
    rw [none, none]

/-- the block visitor never loses a hook call for the site `(d, sp0)` -/
theorem blockVisit_mono (d : String) (sp0 : Span) (ok) (cfg : Config) (hcfg : CfgOk ok cfg) (opFuel : Nat) :
    ∀ (f : Nat) (n : Node) (s : St), StOk s → goodW ok true n = true → StOk (blockVisit cfg opFuel f n s).2 →
      cq (qAt d sp0) n ≤ cq (qAt d sp0) (blockVisit cfg opFuel f n s).1 :=
  blockVisit_rel (p := isBadHook (qAt d sp0)) (R := fun _ _ a b => a ≤ b)
    (CRel.ofWeights Nat.le_refl Nat.le_trans Nat.add_le_add) cfg ok hcfg
    (fun _ _ n _ h0 _ _ => Nat.le_trans (Nat.le_of_eq (cq_of_ns0 (qAt d sp0) n h0)) (Nat.zero_le _))
    (letDecl_cnt (fun _ _ _ _ _ => rfl) (fun _ => rfl) (fun _ => rfl) (fun _ _ => rfl))
    (fun _ _ => rfl)
    (fun c as as' sp => by simp only [isBadHook, isHook, hookName?_args c as as' sp sp, qAt, hookSiteOf_args c as as' sp])
    (fun opFuel f n s hb hn hs hg hfin => by
      rw [isBadHook_of_none _ hn,
        isBadHook_of_none _ (hookName?_mapBlocks cfg ok hcfg opFuel f n s hn hs (goodL_kids hb hn hg) hfin)])
    opFuel

/-- standing on a good block statement, in a run that ends neither cancelled nor out of fuel: its statements are
    visited from a fresh identifier provider (`ks1`, still within fuel), the `let` for the temporaries is put
    in front (`ks2`), and the nested traversal goes through `ks2` -/
theorem blockVisit_block_run (ok) (cfg : Config) (hcfg : CfgOk ok cfg) (opFuel f : Nat) (ss : List Node) (sp : Span) (s : St)
    (hs : StOk s) (hg : goodW ok true (.block ss sp) = true)
    (hfin : StOk (blockVisit cfg opFuel (f + 1) (.block ss sp) s).2)
    (hfo : (blockVisit cfg opFuel (f + 1) (.block ss sp) s).2.fuelOut = false) :
    nsL ss = 0 ∧ (∀ k ∈ ss, targetsOk k = true) ∧ ∃ ks1 s1 ks2,
      mapM' (visit cfg opFuel true) ss (resetProvider s) = (ks1, s1) ∧ s1.fuelOut = false ∧ StOk s1 ∧
      insertVariableDeclaration s1.idents (.block ks1 sp) = .block ks2 sp ∧ goodL ok true ks2 = true ∧
      blockVisit cfg opFuel (f + 1) (.block ss sp) s =
        (.block (mapM' (blockVisit cfg opFuel f) ks2 s1).1 sp, (mapM' (blockVisit cfg opFuel f) ks2 s1).2) := by
  rw [good_block] at hg
  simp only [if_true, Bool.and_eq_true, beq_iff_eq] at hg
  have h0 : ns (.block ss sp) = 0 := by simp [hg.1]
  have htg : targetsOk (.block ss sp) = true := (bad_zero_iff _).mp (by simp [hg.2])
  refine ⟨hg.1, targetsOk_kids htg, ?_⟩
  obtain ⟨g, e, _⟩ := mapVisit_spec ok (visit cfg opFuel true)
    (fun k s h0 ht hs => visit_spec ok cfg hcfg opFuel true k s h0 ht hs) ss (resetProvider s) hg.1 (targetsOk_kids htg) hs
  have hK : mapKidsM mapM' (visit cfg opFuel true) (.block ss sp) (resetProvider s) =
      (.block (mapM' (visit cfg opFuel true) ss (resetProvider s)).1 sp, (mapM' (visit cfg opFuel true) ss (resetProvider s)).2) := rfl
  rw [blockVisit_block cfg opFuel f ss sp s hs, hK] at hfin hfo ⊢
  generalize mapM' (visit cfg opFuel true) ss (resetProvider s) = K at g e hfin hfo
  obtain ⟨ks1, s1⟩ := K
  dsimp only at g e hfin hfo ⊢
  by_cases hd : variablesContainPossibleDuplicate s1.vars (tempPrefix cfg.localVarPrefix) = true
  · rw [if_pos hd] at hfin
    exact absurd rfl hfin
  · rw [if_neg hd] at hfin hfo ⊢
    obtain ⟨ks2, hins, g2, _⟩ := insertVar_spec ok s1.idents ks1 sp g
    rw [hins] at hfin hfo ⊢
    have hrun : mapKidsM mapM' (blockVisit cfg opFuel f) (.block ks2 sp) s1 =
        (.block (mapM' (blockVisit cfg opFuel f) ks2 s1).1 sp, (mapM' (blockVisit cfg opFuel f) ks2 s1).2) := rfl
    rw [hrun] at hfin hfo ⊢
    have hs1 : StOk s1 := e.stOk hs
    obtain ⟨_, _, k, ek, _⟩ := mapBlock_spec ok (blockVisit cfg opFuel f)
      (fun k s hs hg => blockVisit_spec ok cfg hcfg opFuel f k s hs hg)
      (fun k s h => blockVisit_canc cfg opFuel f k s h) ks2 s1 hs1 g2 hfin
    exact ⟨ks1, s1, ks2, rfl, ek.fo hfo, hs1, hins, g2, rfl⟩

/-- **C04, per block.**  Every block statement the block visitor enters — at
    any depth, in any state that is not cancelled — comes back, unless the run is cancelled or out of fuel,
    with at least one hook call of the expected name and span for every `+` / `+=` / template / `recv.m(..)` occurrence the
    specification requires in the positions of its statements that the operation visitor reaches
    (`R`, `reqOwn_spec_*`). -/
theorem block_cover (ok) (cfg : Config) (hcfg : CfgOk ok cfg) (d : String) (sp0 : Span) (opFuel f : Nat)
    (ss : List Node) (sp : Span) (s : St) (hs : StOk s) (hg : goodW ok true (.block ss sp) = true)
    (hfin : StOk (blockVisit cfg opFuel (f + 1) (.block ss sp) s).2)
    (hfo : (blockVisit cfg opFuel (f + 1) (.block ss sp) s).2.fuelOut = false) :
    RL cfg d sp0 ss ≤ cq (qAt d sp0) (blockVisit cfg opFuel (f + 1) (.block ss sp) s).1 := by
  obtain ⟨h0, htk, ks1, s1, ks2, hK, hfo1, hs1, hins, g2, heq⟩ :=
    blockVisit_block_run ok cfg hcfg opFuel f ss sp s hs hg hfin hfo
  rw [heq] at hfin ⊢
  -- the statements are instrumented, the `let` holds no hook call, the nested traversal loses none
  have h1 := Cov.list (mapVisit_forall2 cfg ok hcfg opFuel true (visit_cover cfg ok hcfg d sp0 opFuel true) ss (resetProvider s)
    h0 htk hs (by rw [hK]; exact hfo1))
  obtain ⟨_, hins', h2⟩ := insertVar_cq (qAt d sp0) s1.idents ks1 sp
  cases hins.symm.trans hins'
  have h3 := mapBlock_rel (p := isBadHook (qAt d sp0)) (R := fun _ _ a b => a ≤ b)
    (CRel.ofWeights Nat.le_refl Nat.le_trans Nat.add_le_add) ok (blockVisit cfg opFuel f)
    (fun k s hs hg hf => blockVisit_mono d sp0 ok cfg hcfg opFuel f k s hs hg hf)
    (fun k s h => blockVisit_canc cfg opFuel f k s h) ks2 s1 hs1 g2 hfin
  rw [hK] at h1
  rw [cq_block]
  exact Nat.le_trans h1 (h2 ▸ h3)

end IastModel
