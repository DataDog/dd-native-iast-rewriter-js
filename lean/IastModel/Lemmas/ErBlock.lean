import IastModel.Lemmas.ErBlk
/-
  The block visitor: every block it works on comes back as a block that erases to the statements it had
  (`blockVisit_BRg`), for any fuel and any state, unless the run is refused.
-/
namespace IastModel
open Node
variable {cfg : Config}

theorem eraseL_append (σ : Env) (xs ys : List Node) :
    eraseL σ (xs ++ ys) = ((eraseL σ xs).1 ++ (eraseL (eraseL σ xs).2 ys).1, (eraseL (eraseL σ xs).2 ys).2) := by
  induction xs generalizing σ with
  | nil => simp [eraseL]
  | cons x xs ih => simp only [List.cons_append, eraseL, ih, List.cons_append]

/-- the statement test `erase` uses to find the injected `let` of a block at position `sp` -/
def isLetAt (sp : Span) (s : Node) : Bool := (injectedLet? s).isSome && s.span == sp

/-- neither the statement nor any replacement of its nested blocks is taken for the injected `let` -/
def NL (sp : Span) (k' : Node) : Prop := ∀ k'', BRg k' k'' → isLetAt sp k'' = false

theorem isLetAt_letDecl (ids : List Nat) (sp : Span) (h : ids ≠ []) : isLetAt sp (letDecl ids sp) = true := by
  unfold isLetAt letDecl injectedLet?
  simp only [Node.span, beq_self_eq_true, Bool.and_true]
  have h1 : (List.map declaratorTemp? (List.map (fun n => Node.other "VariableDeclarator" sp ["id", "init", "definite"]
      [tempIdent n, Node.atom "null", Node.atom "false"]) ids)) = ids.map some := by
    simp [List.map_map, Function.comp_def, declaratorTemp?, tempIdent]
  simp only [h1]
  have h2 : (ids.map some).isEmpty = false := by cases ids <;> simp_all
  have h3 : (ids.map (some : Nat → Option Nat)).all Option.isSome = true := by simp
  simp [h2, h3]

theorem noBlk_letDecl (ids : List Nat) (sp : Span) : noBlk (letDecl ids sp) = true := by
  unfold letDecl
  rw [noBlk_eq]
  simp only [isBlockNode, kids, noBlkL_cons, noBlkL_nil, Bool.not_false, Bool.true_and, Bool.and_true]
  have ha : ∀ s, noBlk (Node.atom s) = true := by intro s; rw [noBlk_eq]; rfl
  simp only [ha, Bool.true_and]
  rw [noBlk_eq]
  simp only [isBlockNode, kids, Bool.not_false, Bool.true_and]
  unfold noBlkL
  rw [List.all_eq_true]
  intro d hd
  simp only [List.mem_map] at hd
  obtain ⟨n, _, rfl⟩ := hd
  rw [noBlk_eq]
  simp only [isBlockNode, kids, noBlkL_cons, noBlkL_nil, noBlk_tempIdent, ha]
  rfl

theorem inert_letDecl (ids : List Nat) (sp : Span) : Inert (letDecl ids sp) := by
  intro σ
  unfold letDecl
  simp only [erase, eraseL]
  have : ∀ (l : List Nat) (σ : Env), (eraseL σ (l.map fun n => Node.other "VariableDeclarator" sp ["id", "init", "definite"]
      [tempIdent n, Node.atom "null", Node.atom "false"])).2 = σ := by
    intro l
    induction l with
    | nil => intro σ; rfl
    | cons n l ih => intro σ; simp only [List.map_cons, eraseL, erase, tempIdent]; exact ih σ
  exact this ids σ

/-- statements of a block, as the well-formedness of the block constrains them -/
def stmtOk (sp : Span) (k : Node) : Bool :=
  if sp.isDummy then (match k with | .other kk _ _ _ => kk != "VariableDeclaration" | _ => false) else k.span != sp

theorem isOptN_false (k : Node) : isOptN k = false := rfl

theorem visit_NL (cfg : Config) (f : Nat) (sp : Span) (k : Node) (s : St) (hs : srcOk k = true) (hn : noOpt cfg k = true)
    (hk : stmtOk sp k = true) : NL sp (visit cfg f true k s).1 := by
  intro k'' hb
  unfold isLetAt
  by_cases hd : sp.isDummy = true
  · simp only [stmtOk, hd, if_true] at hk
    cases k with
    | other kk ksp ns vs =>
      obtain ⟨vs', hv⟩ := visit_other cfg f true kk ksp ns vs s
      rw [hv] at hb
      obtain ⟨vs'', rfl, _⟩ := hb.other_inv
      have hkk : kk ≠ "VariableDeclaration" := by simpa using hk
      have : injectedLet? (.other kk ksp ns vs'') = none := by
        unfold injectedLet?
        split
        · rename_i heq
          simp only [other.injEq] at heq
          exact absurd heq.1 hkk
        · rfl
      simp [this]
    | _ => simp at hk
  · simp only [stmtOk, hd, Bool.false_eq_true, if_false] at hk
    obtain ⟨hi, hv⟩ := visit_VRes cfg f true k s hs hn
    have hspan : k''.span = k.span := by
      rw [BRg.span _ _ hb]
      rcases hv.2.1 with h | h
      · exact h
      · rw [isOptN_false k] at h; exact absurd h.1 (by simp)
    have : (k''.span == sp) = false := by rw [hspan]; simpa [bne] using hk
    simp [this]

theorem srcOk_block_stmts {ss : List Node} {sp : Span} (h : srcOk (.block ss sp) = true) : ∀ k ∈ ss, stmtOk sp k = true := by
  have h0 := srcOk_self h
  simp only [srcNode] at h0
  intro k hk
  unfold stmtOk
  split at h0
  · rename_i hd
    simp only [hd, if_true]
    exact List.all_eq_true.mp h0 k hk
  · rename_i hd
    simp only [hd]
    exact List.all_eq_true.mp h0 k hk

theorem mapM'_forall (g : Node → M Node) (P : Node → Prop) : ∀ (ks : List Node) (s : St), (∀ k ∈ ks, ∀ s, P (g k s).1) →
    ∀ x ∈ (mapM' g ks s).1, P x := by
  intro ks
  induction ks with
  | nil => intro s _ x hx; simp [mapM', run_pure] at hx
  | cons k ks ih =>
    intro s h x hx
    simp only [mapM', run_bind, run_pure, List.mem_cons] at hx
    rcases hx with rfl | hx
    · exact h k (by simp) s
    · exact ih _ (fun y hy => h y (by simp [hy])) x hx

theorem NL_BRgL {sp : Span} : ∀ {xs ys : List Node}, (∀ x ∈ xs, NL sp x) → BRgL xs ys → ∀ y ∈ ys, isLetAt sp y = false := by
  intro xs
  induction xs with
  | nil => intro ys _ hb y hy; rw [BRgL.nil_inv hb] at hy; cases hy
  | cons x xs ih =>
    intro ys h hb y hy
    obtain ⟨b, bs, rfl, hxb, hbs⟩ := BRgL.cons_inv hb
    rcases List.mem_cons.mp hy with rfl | hy
    · exact h x (by simp) _ hxb
    · exact ih (fun z hz => h z (by simp [hz])) hbs y hy

theorem findIdx_none_of {p : Node → Bool} {l : List Node} (h : ∀ y ∈ l, p y = false) : l.findIdx? p = none := by
  rw [List.findIdx?_eq_none_iff]; exact h

theorem findIdx_at {p : Node → Bool} {pre post : List Node} {x : Node} (h : ∀ y ∈ pre, p y = false) (hx : p x = true) :
    (pre ++ x :: post).findIdx? p = some pre.length := by
  induction pre with
  | nil => simp [List.findIdx?_cons, hx]
  | cons a as ih =>
    have ha := h a (by simp)
    simp only [List.cons_append, List.findIdx?_cons, ha, Bool.false_eq_true, if_false]
    rw [ih (fun y hy => h y (by simp [hy]))]
    simp

theorem dropAt_mid (pre post : List Node) (x : Node) : dropAt (pre ++ x :: post) (some pre.length) = pre ++ post := by
  simp [dropAt]

theorem Forall2_Sim_span {Xs ks : List Node} (h : Forall2 ESim Xs ks) : Xs.map Node.span = ks.map Node.span :=
  Forall2.ind (P := fun Xs ks => Xs.map Node.span = ks.map Node.span) rfl
    (fun x y _ _ hab _ ih => by
      simp only [List.map_cons, List.cons.injEq]
      refine ⟨?_, ih⟩
      rcases hab.2.1 with hh | hh
      · exact hh
      · rw [isOptN_false y] at hh; exact absurd hh.1 (by simp)) h

/-- the list of statements a block visit leaves, against the statements it started from -/
theorem goodBlk_of (ss ss1 : List Node) (sp : Span) (ids : List Nat) (hi : Nat) (ss2 : List Node)
    (hkl : KL 0 hi ss1 ss) (hnl : ∀ x ∈ ss1, NL sp x)
    (hb : BRgL (if ids.isEmpty then ss1 else insertAt ss1 (variableInsertionIndex ss1) [letDecl ids sp]) ss2) :
    ∀ σ, ∃ es, erase σ (.block ss2 sp) = (.block es sp, σ) ∧ BlkSim es ss := by
  intro σ
  by_cases he : ids.isEmpty = true
  · simp only [he, if_true] at hb
    obtain ⟨Xs, Δ, eX, sX, _⟩ := eraseL_KL hkl ss2 hb σ
    refine ⟨Xs, ?_, Forall2_Sim_strip sX, Forall2_Sim_span sX⟩
    simp only [erase, eX]
    have : injectedLetAt sp ss2 = none := findIdx_none_of (NL_BRgL hnl hb)
    simp [this, dropAt]
  · simp only [he, Bool.false_eq_true, if_false] at hb
    have hne : ids ≠ [] := by simpa using he
    unfold insertAt at hb
    obtain ⟨k12, post2, rfl, h12, hpost⟩ := BRgL.append_inv hb
    obtain ⟨pre2, l2, rfl, hpre, hl⟩ := BRgL.append_inv h12
    obtain ⟨let2, rfl, hlet⟩ := BRgL.single_inv hl
    rw [BRg_noBlk (noBlk_letDecl ids sp) hlet]
    have hall : BRgL ss1 (pre2 ++ post2) := by
      have := BRgL.append hpre hpost
      rwa [List.take_append_drop] at this
    obtain ⟨Xs, Δ, eX, sX, _⟩ := eraseL_KL hkl (pre2 ++ post2) hall σ
    rw [eraseL_append] at eX
    have hXs : Xs = (eraseL σ pre2).1 ++ (eraseL (eraseL σ pre2).2 post2).1 := (congrArg Prod.fst eX).symm
    refine ⟨Xs, ?_, Forall2_Sim_strip sX, Forall2_Sim_span sX⟩
    have hnl2 := NL_BRgL hnl hall
    have hidx : injectedLetAt sp (pre2 ++ [letDecl ids sp] ++ post2) = some pre2.length := by
      unfold injectedLetAt
      rw [List.append_assoc]
      exact findIdx_at (fun y hy => hnl2 y (by simp [hy])) (isLetAt_letDecl ids sp hne)
    simp only [erase, hidx]
    rw [List.append_assoc, eraseL_append]
    simp only [List.singleton_append, eraseL]
    rw [inert_letDecl ids sp (eraseL σ pre2).2]
    have hlen : (eraseL σ pre2).1.length = pre2.length := eraseL_length _ _
    rw [← hlen, dropAt_mid, hXs]


theorem blkOk_of_noBlk : ∀ n : Node, noBlk n = true → blkOk cfg n = true := by
  apply Node.ind
  intro n ih h
  rw [noBlk_eq, Bool.and_eq_true] at h
  rw [blkOk_eq, Bool.and_eq_true]
  refine ⟨by simp only [bq]; rw [Bool.or_eq_true]; exact Or.inl h.1, ?_⟩
  apply blkOkL_of
  intro k hk
  have : noBlk k = true := by
    have := h.2; unfold noBlkL at this; exact List.all_eq_true.mp this k hk
  exact ih k hk this

theorem mapM'_BRgL (g : Node → M Node) (hc : ∀ k s, s.status = .cancelled → (g k s).2.status = .cancelled) :
    ∀ (ks : List Node) (s : St), (∀ k ∈ ks, ∀ s, (g k s).2.status ≠ .cancelled → BRg k (g k s).1) →
      (mapM' g ks s).2.status ≠ .cancelled → BRgL ks (mapM' g ks s).1 := by
  intro ks
  induction ks with
  | nil => intro s _ _; exact BRgL.nil
  | cons k ks ih =>
    intro s h hfin
    simp only [mapM', run_bind, run_pure] at hfin ⊢
    have h1 : (g k s).2.status ≠ .cancelled := by
      intro hcn
      exact hfin (mapM'_canc g hc ks _ hcn)
    exact BRgL.cons (h k (by simp) s h1) (ih _ (fun x hx => h x (by simp [hx])) hfin)

/-- **the block visitor only replaces block statements by block statements that erase to them** (unless the
    run is refused) -/
theorem blockVisit_BRg (cfg : Config) (opFuel : Nat) : ∀ (f : Nat) (t : Node) (s : St), blkOk cfg t = true →
    (blockVisit cfg opFuel f t s).2.status ≠ .cancelled → BRg t (blockVisit cfg opFuel f t s).1 := by
  intro f
  induction f with
  | zero => intro t s _ _; simp only [blockVisit, run_bind, run_pure]; exact BRg.refl t
  | succ f ih =>
    intro t s hb hfin
    have hkids : ∀ (ks : List Node) (s' : St), blkOkL cfg ks = true → (mapM' (blockVisit cfg opFuel f) ks s').2.status ≠ .cancelled →
        BRgL ks (mapM' (blockVisit cfg opFuel f) ks s').1 := by
      intro ks s' hk hf
      exact mapM'_BRgL _ (fun k s hs => blockVisit_canc cfg opFuel f k s hs) ks s'
        (fun k hk' s'' hf' => ih k s'' (blkOkL_mem hk k hk') hf') hf
    by_cases hblk : isBlockNode t = true
    · obtain ⟨ss, sp, rfl⟩ := eq_block_of_isBlockNode hblk
      have hq : Qb cfg (.block ss sp) = true := by
        rw [blkOk_eq, Bool.and_eq_true] at hb
        simpa [bq, isBlockNode] using hb.1
      simp only [Qb, Bool.and_eq_true] at hq
      have hsk := srcOk_kids hq.1
      have hnk := noOpt_kids hq.2
      have hsc : s.status ≠ .cancelled := by
        intro hcn; exact hfin (blockVisit_canc cfg opFuel (f + 1) _ s hcn)
      rw [blockVisit_block cfg opFuel f ss sp s hsc] at hfin ⊢
      by_cases hd : variablesContainPossibleDuplicate (mapKidsM mapM' (visit cfg opFuel true) (.block ss sp) (resetProvider s)).2.vars
            (tempPrefix cfg.localVarPrefix) = true
      · rw [if_pos hd] at hfin
        exact absurd rfl hfin
      · rw [if_neg hd] at hfin ⊢
        have hin : mapKidsM mapM' (visit cfg opFuel true) (.block ss sp) (resetProvider s) =
            (.block (mapM' (visit cfg opFuel true) ss (resetProvider s)).1 sp, (mapM' (visit cfg opFuel true) ss (resetProvider s)).2) := by
          rw [mapKidsM_run]; rfl
        rw [hin] at hfin ⊢
        dsimp only at hfin ⊢
        -- the statements after the operation visitor
        have hkr := mapM'_KRes (visit cfg opFuel true) true ss
          (fun k hk s' => visit_VRes cfg opFuel true k s' (hsk k (by simp [kids, hk])) (hnk k (by simp [kids, hk]))) (resetProvider s)
        obtain ⟨hi, hkl⟩ := hkr
        have hblk1 : blkOkL cfg (mapM' (visit cfg opFuel true) ss (resetProvider s)).1 = true :=
          mapM'_blk _ _ _ (fun k hk s' => visit_blk cfg opFuel true k s' (hsk k (by simp [kids, hk])) (hnk k (by simp [kids, hk])))
        have hnl : ∀ x ∈ (mapM' (visit cfg opFuel true) ss (resetProvider s)).1, NL sp x :=
          mapM'_forall _ (NL sp) ss _ (fun k hk s' => visit_NL cfg opFuel sp k s' (hsk k (by simp [kids, hk]))
            (hnk k (by simp [kids, hk])) (srcOk_block_stmts hq.1 k hk))
        generalize mapM' (visit cfg opFuel true) ss (resetProvider s) = K at hfin hkl hblk1 hnl ⊢
        obtain ⟨ss1, s1⟩ := K
        dsimp only at hfin hkl hblk1 hnl ⊢
        have hins : insertVariableDeclaration s1.idents (.block ss1 sp) =
            .block (if s1.idents.isEmpty then ss1 else insertAt ss1 (variableInsertionIndex ss1) [letDecl s1.idents sp]) sp := by
          simp only [insertVariableDeclaration]
          by_cases hie : s1.idents.isEmpty = true <;> simp [hie]
        rw [hins] at hfin ⊢
        rw [mapKidsM_run] at hfin ⊢
        simp only [kids, withKids] at hfin ⊢
        have hblk2 : blkOkL cfg (if s1.idents.isEmpty then ss1 else insertAt ss1 (variableInsertionIndex ss1) [letDecl s1.idents sp]) = true := by
          split
          · exact hblk1
          · unfold insertAt
            simp only [blkOkL_append, blkOkL_cons, blkOkL_nil, Bool.and_true, Bool.and_eq_true]
            exact ⟨⟨blkOkL_of (fun k hk => blkOkL_mem hblk1 k (List.mem_of_mem_take hk)), blkOk_of_noBlk _ (noBlk_letDecl _ _)⟩,
              blkOkL_of (fun k hk => blkOkL_mem hblk1 k (List.mem_of_mem_drop hk))⟩
        have hbr := hkids _ s1 hblk2 hfin
        exact BRg.blk ss _ sp (goodBlk_of ss ss1 sp s1.idents hi _ hkl hnl hbr)
    · simp only [Bool.not_eq_true] at hblk
      rw [blockVisit_generic cfg opFuel f t hblk] at hfin ⊢
      rw [mapKidsM_run] at hfin ⊢
      exact BRg.node' hblk (hkids t.kids s (blkOkL_of (blkOk_kids hb)) hfin)


/-- the whole visitor pass over a program: unless refused, the output is `p1`, or `p1` with the file
    prologue inserted, where `p1` is the program with block statements replaced by blocks that erase to them -/
theorem transformProgram_BRg (cfg : Config) (fuel : Nat) (p : Node) (hs : srcOk p = true) (hno : noOpt cfg p = true)
    (hnb : isBlockNode p = false) (hnc : (transformProgram cfg fuel p).status ≠ .cancelled) :
    ∃ p1, BRg p p1 ∧
      (transformProgram cfg fuel p).out =
        (if (transformProgram cfg fuel p).status = .modified then insertPrologue (prologue cfg.dsts) p1 else p1) := by
  obtain ⟨hnc, hst, _, hout, _⟩ := transformProgram_run cfg fuel p hnc
  refine ⟨(mapKidsM mapM' (blockVisit cfg fuel fuel) p {}).1, ?_, by rw [hout, hst]⟩
  rw [mapKidsM_run] at hnc ⊢
  dsimp only at hnc ⊢
  have hb := blkOk_src p hs hno
  refine BRg.node' hnb ?_
  exact mapM'_BRgL _ (fun k s h => blockVisit_canc cfg fuel fuel k s h) p.kids {}
    (fun k hk s hf => blockVisit_BRg cfg fuel fuel k s (blkOk_kids hb k hk) hf) hnc

end IastModel
