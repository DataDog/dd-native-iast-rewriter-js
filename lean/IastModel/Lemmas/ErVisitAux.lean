import IastModel.Lemmas.ErShapes
namespace IastModel
open Node

theorem inertT_eq (n : Node) : inertT n = (inertTNode n && n.kids.all inertT) := by
  unfold inertT
  rw [Node.all_eq]

/-- the operation visitor returns an inert tree as it is -/
theorem visit_inert (cfg : Config) : ∀ (f : Nat) (root : Bool) (n : Node) (s : St), inertT n = true →
    (visit cfg f root n s).1 = n := by
  intro f
  induction f with
  | zero => intro root n s _; simp [visit, run_bind, run_pure]
  | succ f ih =>
    intro root n s hi
    rw [inertT_eq, Bool.and_eq_true] at hi
    have hk : ∀ k ∈ n.kids, inertT k = true := fun k hk => List.all_eq_true.mp hi.2 k hk
    have gen : ∀ r, (mapKidsM mapM' (visit cfg f r) n s).1 = n := by
      intro r
      simp only [mapKidsM, run_bind, run_pure]
      rw [mapM'_id _ _ _ (fun k hk' s' => ih r k s' (hk k hk')), Node.withKids_kids]
    cases n with
    | bin | assign | tpl | call | optChain | arrow | block => simp [inertTNode] at hi
    | ident nm sp => simp [visit, run_bind, run_pure]
    | unary op a sp =>
      simp only [visit]
      split
      · rfl
      · exact gen root
    | _ => simp only [visit]; exact gen root

/-- the result of visiting one node, relative to the counter before and after -/
def VRes (root : Bool) (s s' : St) (n' n : Node) : Prop :=
  match root with
  | true => ∃ hi, EVC 0 hi n' n
  | false => s.counter ≤ s'.counter ∧ EVC s.counter s'.counter n' n

def KRes (root : Bool) (s s' : St) (ks' ks : List Node) : Prop :=
  match root with
  | true => ∃ hi, KL 0 hi ks' ks
  | false => s.counter ≤ s'.counter ∧ KL s.counter s'.counter ks' ks

theorem mapM'_KRes (g : Node → M Node) (root : Bool) : ∀ (ks : List Node),
    (∀ k ∈ ks, ∀ s, VRes root s (g k s).2 (g k s).1 k) →
    ∀ s, KRes root s (mapM' g ks s).2 (mapM' g ks s).1 ks := by
  intro ks
  induction ks with
  | nil =>
    intro _ s
    cases root
    · exact ⟨Nat.le_refl _, by simp [mapM', run_pure, KL, Forall2]⟩
    · exact ⟨0, by simp [mapM', run_pure, KL, Forall2]⟩
  | cons k ks ih =>
    intro h s
    simp only [mapM', run_bind, run_pure]
    have h1 := h k (by simp) s
    have h2 := ih (fun x hx => h x (by simp [hx])) (g k s).2
    cases root
    · simp only [VRes, KRes] at h1 h2 ⊢
      refine ⟨by omega, ?_⟩
      simp only [KL, Forall2]
      exact ⟨h1.2.mono (Nat.le_refl _) h2.1, KL.mono h1.1 (Nat.le_refl _) h2.2⟩
    · simp only [VRes, KRes] at h1 h2 ⊢
      obtain ⟨hi1, v1⟩ := h1
      obtain ⟨hi2, v2⟩ := h2
      refine ⟨max hi1 hi2, ?_⟩
      simp only [KL, Forall2]
      exact ⟨v1.mono (Nat.le_refl _) (Nat.le_max_left _ _), KL.mono (Nat.le_refl _) (Nat.le_max_right _ _) v2⟩

/-- an argument node stays an argument node (with the same spread marker) -/
theorem visit_arg_shape (cfg : Config) (f : Nat) (root : Bool) (sA : Option Span) (e : Node) (s : St) :
    ∃ e', (visit cfg f root (.arg sA e) s).1 = .arg sA e' := by
  cases f with
  | zero => exact ⟨e, by simp [visit, run_bind, run_pure]⟩
  | succ f =>
    simp only [visit, mapKidsM, kids, mapM', run_bind, run_pure, withKids, List.getD_cons_zero]
    exact ⟨_, rfl⟩

theorem mapM'_argShape (cfg : Config) (f : Nat) (root : Bool) : ∀ (as : List Node) (s : St), as.all isArgN = true →
    Forall2 (fun a' a => ∃ sA e' e, a' = Node.arg sA e' ∧ a = Node.arg sA e) (mapM' (visit cfg f root) as s).1 as := by
  intro as
  induction as with
  | nil => intro s _; simp [mapM', run_pure, Forall2]
  | cons a as ih =>
    intro s h
    simp only [List.all_cons, Bool.and_eq_true] at h
    simp only [mapM', run_bind, run_pure, Forall2]
    refine ⟨?_, ih _ h.2⟩
    cases a with
    | arg sA e =>
      obtain ⟨e', he⟩ := visit_arg_shape cfg f root sA e s
      exact ⟨sA, e', e, he, rfl⟩
    | _ => cases h.1

/-- the array-literal clause the `apply` expansion needs, from the part-wise relation -/
theorem DeepEr_of_parts (cx : Cx) (lo hi : Nat) (elems' : List Node) (asp : Span) : ∀ (x' x : Node),
    Deep lo hi x' x → ErAll lo hi x' x → srcOk x = true → argInner x' = .array elems' asp →
    ∃ es, argInner x = .array es asp ∧ asp.isDummy = false ∧ Forall2 (Er cx lo hi) elems' es := by
  apply Node.ind
  intro x' ih x hD hE hsx hx
  cases x' with
  | arg sA e' =>
    obtain ⟨s2, e, rfl, _, _⟩ := Er_arg_inv (hE.er cx)
    simp only [Deep] at hD
    obtain ⟨_, hEe, hDe⟩ := hD
    obtain ⟨es, h1, h2, h3⟩ := ih e' (by simp [kids]) e hDe hEe (srcOk_kids hsx e (by simp [kids])) (by simpa [argInner] using hx)
    exact ⟨es, by simpa [argInner] using h1, h2, h3⟩
  | array es' asp' =>
    simp only [argInner, array.injEq] at hx
    obtain ⟨rfl, rfl⟩ := hx
    obtain ⟨X, Δ, eX, sX, _⟩ := hE _ (BRg.refl _) []
    rw [eraseL_array] at eX
    have hX : X = .array (eraseL [] es').1 asp' := (congrArg Prod.fst eX).symm
    have hst := sX.1
    rw [hX] at hst
    simp only [strip] at hst
    obtain ⟨es, asp2, rfl⟩ := strip_eq_array hst.symm
    simp only [Deep] at hD
    obtain ⟨rfl, hDL⟩ := hD
    have hnd : asp2.isDummy = false := by
      have := srcOk_self hsx; simpa [srcNode] using this
    exact ⟨es, by simp [argInner], hnd, forall2_imp (fun a b hab => hab.1.er cx) hDL.forall2⟩
  | _ => simp [argInner] at hx

theorem DeepEr_of_VC {lo hi : Nat} {a' a : Node} (cx : Cx) (h : EVC lo hi a' a) (hs : srcOk a = true) : DeepEr cx lo hi a' a := by
  intro elems' asp he
  exact DeepEr_of_parts cx lo hi elems' asp a' a h.2.2.1 h.1 hs he

/-- an inert tree has no block statement in it -/
theorem inertT_noBlk : ∀ n : Node, inertT n = true → noBlk n = true := by
  apply Node.ind
  intro n ih h
  rw [inertT_eq, Bool.and_eq_true] at h
  rw [noBlk_eq]
  have h1 : isBlockNode n = false := by
    cases n <;> first | rfl | simp [inertTNode] at h
  simp only [h1, Bool.not_false, Bool.true_and]
  unfold noBlkL
  rw [List.all_eq_true]
  intro k hk
  exact ih k hk (List.all_eq_true.mp h.2 k hk)

end IastModel
