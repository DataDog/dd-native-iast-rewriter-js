import IastModel.Lemmas.Good
/-
  The operand handler keeps goodness and the number of namespace references (`OpSpec`): proved from the case lemmas of
  `getIdentUsed`; the handler functions and the three operand lists share `OpSpec.push`/`keep`/`skip`/`arg`/`of_wrapped` and
  `OpSpecL.cons`.
-/
namespace IastModel
open Node

/-- what every operand-handler function guarantees: good inputs give good outputs, what leaves the
    operand position arrives in the assignments, the argument list gains nothing that mentions the
    namespace, and the status / telemetry part of the state is untouched -/
def OpSpec (ok : String → Bool) (u : Bool) (e : Node) (asg args : List Node) (r : (Node × List Node × List Node) × St) (s : St) : Prop :=
  goodW ok u e = true → goodL ok u asg = true → goodL ok u args = true →
    goodW ok u r.1.1 = true ∧ goodL ok u r.1.2.1 = true ∧ goodL ok u r.1.2.2 = true ∧
    ns r.1.1 + nsL r.1.2.1 = ns e + nsL asg ∧ nsL r.1.2.2 = nsL args ∧ TS r.2 s

def OpSpecL (ok : String → Bool) (u : Bool) (xs : List Node) (asg args : List Node) (r : (List Node × List Node × List Node) × St) (s : St) : Prop :=
  goodL ok u xs = true → goodL ok u asg = true → goodL ok u args = true →
    goodL ok u r.1.1 = true ∧ goodL ok u r.1.2.1 = true ∧ goodL ok u r.1.2.2 = true ∧
    nsL r.1.1 + nsL r.1.2.1 = nsL xs + nsL asg ∧ nsL r.1.2.2 = nsL args ∧ TS r.2 s

theorem good_assignRight (ok u) (e : Node) (k : IdentKind) : goodW ok u (assignRight e k) = goodW ok u e := by
  cases k
  · rfl
  · rw [assignRight, good_array, goodL_cons, good_arg, goodL_nil, Bool.and_true]

theorem good_exprOrSpread (ok u) (e : Node) (k : IdentKind) : goodW ok u (exprOrSpread e k) = goodW ok u e := by
  cases k <;> exact good_arg ..

/-- a sequence used as an operand is put in parentheses (`seqOperand`, and `tplOperand`, which is the same function) -/
theorem good_seqOperand (ok u) (e : Node) : goodW ok u (seqOperand e) = goodW ok u e := by
  unfold seqOperand; split
  · exact good_paren ..
  · rfl
theorem ns_seqOperand (e : Node) : ns (seqOperand e) = ns e := by
  unfold seqOperand; split
  · exact ns_paren ..
  · rfl

theorem getTemporalIdent_good (ok u) (operand : Node) (asg : List Node) (sp : Span) (k : IdentKind) (s : St)
    (he : goodW ok u operand = true) (ha : goodL ok u asg = true) :
    goodL ok u (getTemporalIdent operand asg sp k s).1.2 = true := by
  rcases getTemporalIdent_cases operand asg sp k s with ⟨_, h⟩ | ⟨_, n, s', h, _⟩ <;> rw [h]
  · exact ha
  · rw [goodL_append, ha, goodL_cons, good_assign, tempIdent, good_temp, good_assignRight, he]; rfl

section
variable (ok : String → Bool) (u : Bool)

theorem OpSpec.push {e x : Node} (asg args : List Node) (s : St)
    (hx : goodW ok u e = true → goodW ok u x = true ∧ ns x = 0) :
    OpSpec ok u e asg args ((e, asg, args ++ [x]), s) s := fun he ha hg =>
  ⟨he, ha, by rw [goodL_append, hg, goodL_cons, (hx he).1]; rfl, rfl, by rw [nsL_append, nsL_cons, (hx he).2]; rfl, TS.refl s⟩

theorem OpSpec.keep {e : Node} (asg args : List Node) (k : IdentKind) (s : St) (h0 : goodW ok u e = true → ns e = 0) :
    OpSpec ok u e asg args ((e, asg, args ++ [exprOrSpread e k]), s) s :=
  OpSpec.push ok u asg args s fun he => ⟨by rw [good_exprOrSpread]; exact he, by rw [ns_exprOrSpread]; exact h0 he⟩

theorem OpSpec.skip (e : Node) (asg args : List Node) (s : St) : OpSpec ok u e asg args ((e, asg, args), s) s :=
  fun he ha hg => ⟨he, ha, hg, rfl, rfl, TS.refl s⟩

theorem OpSpec.arg (spread : Option Span) {e : Node} {asg args : List Node} {R : (Node × List Node × List Node) × St} {s : St}
    (h : OpSpec ok u e asg args R s) :
    OpSpec ok u (.arg spread e) asg args ((.arg spread R.1.1, R.1.2.1, R.1.2.2), R.2) s := fun he ha hg => by
  rw [good_arg] at he
  simpa only [good_arg, ns_arg] using h he ha hg

theorem OpSpec.of_wrapped {e e0 : Node} {asg args : List Node} {R : (Node × List Node × List Node) × St} {s : St}
    (h : OpSpec ok u e0 asg args R s) (hg : goodW ok u e0 = goodW ok u e) (hn : ns e0 = ns e) : OpSpec ok u e asg args R s :=
  fun he ha hg' => hn ▸ h (hg ▸ he) ha hg'

theorem OpSpecL.nil (asg args : List Node) (s : St) : OpSpecL ok u [] asg args (([], asg, args), s) s :=
  fun _ ha hg => ⟨rfl, ha, hg, rfl, rfl, TS.refl s⟩

theorem OpSpecL.cons {x : Node} {xs asg args : List Node} {s : St} {R1 : (Node × List Node × List Node) × St}
    {R2 : (List Node × List Node × List Node) × St}
    (h1 : OpSpec ok u x asg args R1 s) (h2 : OpSpecL ok u xs R1.1.2.1 R1.1.2.2 R2 R1.2) :
    OpSpecL ok u (x :: xs) asg args ((R1.1.1 :: R2.1.1, R2.1.2.1, R2.1.2.2), R2.2) s := fun hx ha hg => by
  rw [goodL_cons, Bool.and_eq_true] at hx
  obtain ⟨g1, g2, g3, c1, c2, t1⟩ := h1 hx.1 ha hg
  obtain ⟨k1, k2, k3, d1, d2, t2⟩ := h2 hx.2 g2 g3
  refine ⟨by rw [goodL_cons, g1, k1]; rfl, k2, k3, ?_, d2.trans c2, t2.trans t1⟩
  show nsL (R1.1.1 :: R2.1.1) + nsL R2.1.2.1 = nsL (x :: xs) + nsL asg
  rw [nsL_cons, nsL_cons]; omega

theorem replaceDefault_spec (e : Node) (asg args : List Node) (sp : Span) (k : IdentKind) (s : St) :
    OpSpec ok u e asg args (replaceDefault e asg args sp k s) s := by
  unfold replaceDefault
  simp only [run_bind, run_pure]
  rcases getIdentUsed_cases e asg args sp k s with ⟨hl, h⟩ | ⟨_, n, s', h, ts⟩ <;> rw [h]
  · exact OpSpec.keep ok u asg args k s fun _ => isLit_ns hl
  · intro he ha hg
    refine ⟨good_temp .., ?_, ?_, ?_, ?_, ts⟩
    · rw [goodL_append, ha, goodL_cons, good_assign, tempIdent, good_temp, good_assignRight, he]; rfl
    · rw [goodL_append, hg, goodL_cons, good_exprOrSpread, tempIdent, good_temp]; rfl
    · simp only [tempIdent, ns_temp, nsL_append, nsL_cons, nsL_nil, ns_assign, ns_assignRight]; omega
    · rw [nsL_append, nsL_cons, ns_exprOrSpread, tempIdent, ns_temp]; rfl

theorem replaceExprNoExpand_spec (e : Node) (mode : IdentMode) (asg args : List Node) (sp : Span) (k : IdentKind)
    (s : St) : OpSpec ok u e asg args (replaceExprNoExpand e mode asg args sp k s) s := by
  unfold replaceExprNoExpand
  split
  · exact OpSpec.keep ok u asg args k s fun _ => ns_lit ..
  · split
    · exact replaceDefault_spec ok u _ asg args sp k s
    · exact OpSpec.keep ok u asg args k s fun he => good_leaf_ns he rfl
  · split
    · exact replaceDefault_spec ok u _ asg args sp k s
    · split
      · rename_i hls; exact OpSpec.keep ok u asg args k s fun _ => isLiteralSum_ns _ hls
      · exact OpSpec.skip ok u _ asg args s
  · exact replaceDefault_spec ok u _ asg args sp k s

theorem replaceArgNoExpand_spec (a : Node) (mode : IdentMode) (asg args : List Node) (sp : Span) (s : St) :
    OpSpec ok u a asg args (replaceArgNoExpand a mode asg args sp s) s := by
  unfold replaceArgNoExpand
  split
  · exact (replaceExprNoExpand_spec ok u _ mode asg args sp _ s).arg ok u _
  · exact OpSpec.skip ok u _ asg args s

theorem replaceElem_spec (a : Node) (mode : IdentMode) (asg args : List Node) (sp : Span) (s : St) :
    OpSpec ok u a asg args (replaceElem a mode asg args sp s) s := by
  unfold replaceElem
  split
  · exact replaceArgNoExpand_spec ok u _ mode asg args sp s
  · exact OpSpec.push ok u asg args s fun _ => ⟨by simp [voidZero], by simp [voidZero]⟩

theorem replaceElems_spec (mode : IdentMode) (sp : Span) : ∀ (xs asg args : List Node) (s : St),
    OpSpecL ok u xs asg args (replaceElems mode sp xs asg args s) s
  | [], asg, args, s => OpSpecL.nil ok u asg args s
  | x :: xs, asg, args, s => OpSpecL.cons ok u (replaceElem_spec ok u x mode asg args sp s) (replaceElems_spec mode sp xs _ _ _)

theorem replaceExpr_spec (e : Node) (mode : IdentMode) (asg args : List Node) (sp : Span) (k : IdentKind)
    (expand : Bool) (s : St) : OpSpec ok u e asg args (replaceExpr e mode asg args sp k expand s) s := by
  unfold replaceExpr
  split
  · rename_i elems asp
    intro he ha hg
    rw [good_array] at he
    simpa only [run_bind, run_pure, good_array, ns_array] using replaceElems_spec ok u mode sp elems asg args s he ha hg
  · exact replaceExprNoExpand_spec ok u e mode asg args sp k s

theorem replaceArg_spec (a : Node) (mode : IdentMode) (asg args : List Node) (sp : Span) (expand : Bool) (s : St) :
    OpSpec ok u a asg args (replaceArg a mode asg args sp expand s) s := by
  unfold replaceArg
  split
  · exact (replaceExpr_spec ok u _ mode asg args sp _ expand s).arg ok u _
  · exact OpSpec.skip ok u _ asg args s

theorem replaceArgs_spec (mode : IdentMode) (sp : Span) (expand : Bool) : ∀ (xs asg args : List Node) (s : St),
    OpSpecL ok u xs asg args (replaceArgs mode sp expand xs asg args s) s
  | [], asg, args, s => OpSpecL.nil ok u asg args s
  | x :: xs, asg, args, s => OpSpecL.cons ok u (replaceArg_spec ok u x mode asg args sp expand s) (replaceArgs_spec mode sp expand xs _ _ _)

end
end IastModel
