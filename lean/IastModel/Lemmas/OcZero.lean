import IastModel.Lemmas.TrAssign
import IastModel.Lemmas.OcShape
/-
  The optional-chain lowering adds nothing that a counter blind to its scaffolding can see: a chain on
  which `Node.count p` is zero is lowered into an expression, and a list of hoisted assignments, on which
  it is zero.  Proved once for such `p`; `ns` (references to the hook namespace) is the instance here,
  `bad` (foreign compound-assignment targets) the one below (`ocBlind_bad`).
-/
namespace IastModel
open Node

/-- the node kinds the optional-chain lowering builds, or rebuilds around a visited child -/
def lowered : Node → Bool
  | .ident (.temp _) _ => true
  | .ident (.user x) _ => x == "undefined"
  | .assign op _ _ _ => op == "="
  | .lit .. | .pname .. | .bin .. | .member .. | .call .. | .optCall .. | .optChain .. | .arg .. | .paren ..
  | .seq .. | .cond .. => true
  | _ => false

/-- `p` is false on everything the optional-chain lowering builds -/
def OcBlind (p : Node → Bool) : Prop := ∀ n, lowered n = true → p n = false

/-- the visited link and the assignments hoisted so far weigh nothing; telemetry and status are untouched -/
def OcPostP (p : Node → Bool) (R : (Node × OcSt) × St) (s : St) : Prop :=
  count p R.1.1 = 0 ∧ countL p R.1.2.assignments = 0 ∧ TS R.2 s

namespace OcBlind
variable {p : Node → Bool} (hp : OcBlind p)
include hp

theorem c_leaf {n : Node} (h : lowered n = true) (hk : n.kids = []) : count p n = 0 := by
  rw [count_of_false p (hp n h), hk]; rfl
theorem c_tempIdent (t : Nat) : count p (tempIdent t) = 0 := hp.c_leaf rfl rfl
theorem c_member (o q : Node) (sp : Span) : count p (.member o q sp) = count p o + count p q := by
  rw [count_member, hp _ rfl]; exact Nat.zero_add _
theorem c_call (c : Node) (as : List Node) (sp : Span) : count p (.call c as sp) = count p c + countL p as := by
  rw [count_call, hp _ rfl]; exact Nat.zero_add _
theorem c_optCall (c : Node) (as : List Node) (sp : Span) : count p (.optCall c as sp) = count p c + countL p as := by
  rw [count_optCall, hp _ rfl]; exact Nat.zero_add _
theorem c_optChain (o : Bool) (b : Node) (sp : Span) : count p (.optChain o b sp) = count p b := by
  rw [count_optChain, hp _ rfl]; exact Nat.zero_add _
theorem c_arg (sp : Option Span) (e : Node) : count p (.arg sp e) = count p e := by
  rw [count_arg, hp _ rfl]; exact Nat.zero_add _
theorem c_tempAssign (t : Nat) (e : Node) (sp : Span) : count p (.assign "=" (tempIdent t) e sp) = count p e := by
  rw [count_assign, hp _ rfl, hp.c_tempIdent]; simp only [Bool.false_eq_true, if_false, Nat.zero_add]

theorem getCallFromBaseCall_zero (callee : Node) (args : List Node) (optional : Bool) (oc : OcSt) (s : St)
    (hc : count p callee = 0) (ha : countL p args = 0) (hz : countL p oc.assignments = 0) :
    let R := getCallFromBaseCall callee args optional oc s
    countL p R.1.2.assignments = 0 ∧ (∀ r, R.1.1 = some r → count p r = 0) ∧ TS R.2 s := by
  rcases getCallFromBaseCall_shape callee args optional oc s with h | ⟨_, h⟩ | ⟨mobj, mprop, msp, t0, t1, s', rfl, ts, h⟩ |
      ⟨t0, s', ts, h⟩ <;> rw [h] <;> dsimp only
  · exact ⟨hz, fun r hr => (nomatch hr), TS.refl s⟩
  · exact ⟨hz, fun r hr => by cases hr; rw [hp.c_call, hc, ha], TS.refl s⟩
  · rw [hp.c_member] at hc
    refine ⟨?_, fun r hr => ?_, ts⟩
    · simp only [countL_append, countL_cons, countL_nil, hp.c_tempAssign, hp.c_member, hp.c_tempIdent]; omega
    · cases hr
      simp only [hp.c_call, hp.c_member, hp.c_tempIdent, hp.c_leaf (n := .pname _ _) rfl rfl, countL_cons, hp.c_arg]
      omega
  · refine ⟨?_, fun r hr => ?_, ts⟩
    · simp only [countL_append, countL_cons, countL_nil, hp.c_tempAssign]; omega
    · cases hr; rw [hp.c_call, hp.c_tempIdent, ha]

theorem getMemberFromBaseMember_zero (obj prop : Node) (msp : Span) (optional : Bool) (oc : OcSt) (s : St)
    (hc : count p obj = 0) (hq : count p prop = 0) (hz : countL p oc.assignments = 0) :
    let R := getMemberFromBaseMember obj prop msp optional oc s
    countL p R.1.2.assignments = 0 ∧ (∀ r, R.1.1 = some r → count p r = 0) ∧ TS R.2 s := by
  rcases getMemberFromBaseMember_shape obj prop msp optional oc s with h | ⟨_, h⟩ | ⟨t, s', ts, h⟩ <;> rw [h] <;> dsimp only
  · exact ⟨hz, fun r hr => (nomatch hr), TS.refl s⟩
  · exact ⟨hz, fun r hr => by cases hr; rw [hp.c_member, hc, hq], TS.refl s⟩
  · refine ⟨?_, fun r hr => ?_, ts⟩
    · simp only [countL_append, countL_cons, countL_nil, hp.c_tempAssign]; omega
    · cases hr; rw [hp.c_member, hp.c_tempIdent, hq]

theorem ocSpine_zero (v : Node → OcM Node)
    (hv : ∀ e oc s, count p e = 0 → countL p oc.assignments = 0 → OcPostP p (v e oc s) s)
    (e : Node) (oc : OcSt) (s : St) (h0 : count p e = 0) (hz : countL p oc.assignments = 0) :
    OcPostP p (ocSpine v e oc s) s := by
  unfold ocSpine
  split
  · rename_i o callee args csp sp
    rw [oc_bind, oc_pure]
    rw [hp.c_optChain, hp.c_optCall] at h0
    obtain ⟨h1, h2⟩ := hv callee oc s (by omega) hz
    exact ⟨by rw [hp.c_optChain, hp.c_optCall, h1]; omega, h2⟩
  · rename_i o obj prop msp sp
    rw [oc_bind, oc_pure]
    rw [hp.c_optChain, hp.c_member] at h0
    obtain ⟨h1, h2⟩ := hv obj oc s (by omega) hz
    exact ⟨by rw [hp.c_optChain, hp.c_member, h1]; omega, h2⟩
  · rename_i callee args sp
    split
    · exact ⟨h0, hz, TS.refl s⟩
    · rw [oc_bind, oc_pure]
      rw [hp.c_call] at h0
      obtain ⟨h1, h2⟩ := hv callee oc s (by omega) hz
      exact ⟨by rw [hp.c_call, h1]; omega, h2⟩
  · rename_i obj prop sp
    rw [oc_bind, oc_pure]
    rw [hp.c_member] at h0
    obtain ⟨h1, h2⟩ := hv obj oc s (by omega) hz
    exact ⟨by rw [hp.c_member, h1]; omega, h2⟩
  · exact ⟨h0, hz, TS.refl s⟩

theorem ocVisit_zero (cfg : Config) : ∀ (f : Nat) (n : Node) (oc : OcSt) (s : St),
    count p n = 0 → countL p oc.assignments = 0 → OcPostP p (ocVisit cfg f n oc s) s := fun f n oc s h hz =>
  ocVisit_rule cfg (Pre := fun n oc _ => count p n = 0 ∧ countL p oc.assignments = 0) (Q := fun _ _ s R => OcPostP p R s)
    (H := fun _ _ s R => countL p R.1.2.assignments = 0 ∧ (∀ r, R.1.1 = some r → count p r = 0) ∧ TS R.2 s)
    (fun _ _ _ h => ⟨h.1, h.2, rfl, rfl, fun _ => rfl⟩)
    (fun _ _ s h => ⟨h.1, h.2, TS.refl s⟩)
    (fun o callee args csp sp oc s ⟨h, hz⟩ => by
      rw [hp.c_optChain, hp.c_optCall, Nat.add_eq_zero_iff] at h
      exact hp.getCallFromBaseCall_zero callee args o oc s h.1 h.2 hz)
    (fun o obj prop msp sp oc s ⟨h, hz⟩ => by
      rw [hp.c_optChain, hp.c_member, Nat.add_eq_zero_iff] at h
      exact hp.getMemberFromBaseMember_zero obj prop msp o oc s h.1 h.2 hz)
    (fun _ _ s h => ⟨h.2, nofun, TS.refl s⟩)
    (fun n oc s r oc1 s1 h ⟨z1, hr, t1⟩ =>
      ⟨⟨by cases r with | none => exact h.1 | some x => exact hr x rfl, z1⟩, fun X ⟨a, b, c⟩ => ⟨a, b, c.trans t1⟩⟩)
    (fun _ hv e oc s h => hp.ocSpine_zero _ (fun e oc s a b => hv e oc s ⟨a, b⟩) e oc s h.1 h.2)
    (fun _ _ _ h => ⟨h, fun _ hX => hX⟩) f n oc s ⟨h, hz⟩

theorem toDdCond_zero (cfg : Config) (fuel : Nat) (e : Node) (s : St) (h : count p e = 0) :
    let R := toDdCond cfg fuel e s
    count p R.1.1 = 0 ∧ (∀ r, R.1.2 = some r → count p r = 0) ∧ TS R.2 s := by
  unfold toDdCond
  rw [run_bind]
  have hv : OcPostP p (StateT.run (ocVisit cfg fuel e) {} s) s := hp.ocVisit_zero cfg fuel e {} s h rfl
  generalize StateT.run (ocVisit cfg fuel e) {} s = X at hv ⊢
  obtain ⟨⟨e', oc⟩, s'⟩ := X
  obtain ⟨h1, h2, h3⟩ := hv
  dsimp only at h1 h2 h3 ⊢
  cases oc.newIdent with
  | none => exact ⟨h1, fun r hr => (nomatch hr), h3⟩
  | some t =>
    dsimp only
    split
    · exact ⟨h1, fun r hr => (nomatch hr), h3⟩
    · refine ⟨h1, fun r hr => ?_, h3⟩
      cases hr
      rw [count_of_false p (hp (.paren _ _) rfl), kids, countL_cons, count_of_false p (hp (.seq _ _) rfl), kids, countL_append,
        h2, countL_cons, count_cond, hp _ rfl, count_bin, hp _ rfl, hp.c_tempIdent, hp.c_leaf (n := nullLit) rfl rfl,
        hp.c_leaf (n := .ident (.user "undefined") _) rfl rfl, h1]
      rfl

end OcBlind

theorem ocBlind_ns : OcBlind mentionsNs := by
  intro n h
  unfold mentionsNs
  split
  · obtain rfl : _ = "undefined" := eq_of_beq h
    decide
  · rfl

/-- the optional-chain lowering state holds nothing that mentions the namespace -/
def OcZ (oc : OcSt) : Prop := nsL oc.assignments = 0

def OcPost (R : (Node × OcSt) × St) (s : St) : Prop := ns R.1.1 = 0 ∧ OcZ R.1.2 ∧ TS R.2 s

theorem getCallFromBaseCall_z (callee : Node) (args : List Node) (optional : Bool) (oc : OcSt) (s : St)
    (hc : ns callee = 0) (ha : nsL args = 0) (hz : OcZ oc) :
    let R := getCallFromBaseCall callee args optional oc s
    OcZ R.1.2 ∧ (∀ r, R.1.1 = some r → ns r = 0) ∧ TS R.2 s :=
  ocBlind_ns.getCallFromBaseCall_zero callee args optional oc s hc ha hz

theorem getMemberFromBaseMember_z (obj prop : Node) (msp : Span) (optional : Bool) (oc : OcSt) (s : St)
    (hc : ns obj = 0) (hp : ns prop = 0) (hz : OcZ oc) :
    let R := getMemberFromBaseMember obj prop msp optional oc s
    OcZ R.1.2 ∧ (∀ r, R.1.1 = some r → ns r = 0) ∧ TS R.2 s :=
  ocBlind_ns.getMemberFromBaseMember_zero obj prop msp optional oc s hc hp hz

theorem ocVisit_z (cfg : Config) (f : Nat) (n : Node) (oc : OcSt) (s : St) (h : ns n = 0) (hz : OcZ oc) :
    OcPost (ocVisit cfg f n oc s) s :=
  ocBlind_ns.ocVisit_zero cfg f n oc s h hz

theorem toDdCond_z (cfg : Config) (fuel : Nat) (e : Node) (s : St) (h : ns e = 0) :
    let R := toDdCond cfg fuel e s
    ns R.1.1 = 0 ∧ (∀ r, R.1.2 = some r → ns r = 0) ∧ TS R.2 s :=
  ocBlind_ns.toDdCond_zero cfg fuel e s h

theorem ocBlind_bad : OcBlind fun k => !assignTargetOk k := by
  intro n h
  show (!assignTargetOk n) = false
  unfold assignTargetOk
  split
  · obtain rfl : _ = "=" := eq_of_beq h
    rfl
  · rfl

theorem toDdCond_b (cfg : Config) (fuel : Nat) (e : Node) (s : St) (h : bad e = 0) :
    let R := toDdCond cfg fuel e s
    bad R.1.1 = 0 ∧ (∀ r, R.1.2 = some r → bad r = 0) ∧ TS R.2 s :=
  ocBlind_bad.toDdCond_zero cfg fuel e s h

theorem toDdCond_keeps_false {p : Node → Bool} (hb : ∀ r, built r = true → p r = false) (cfg : Config) (fuel : Nat)
    (e : Node) (s : St) (h : p e = false) :
    p (toDdCond cfg fuel e s).1.1 = false ∧ ∀ r, (toDdCond cfg fuel e s).1.2 = some r → p r = false := by
  obtain ⟨h1, h2⟩ := toDdCond_shape cfg fuel e s
  exact ⟨h1.elim (fun e' => (congrArg p e').trans h) (hb _), fun r hr => hb r (h2 r hr)⟩

theorem toDdCond_nb (cfg : Config) (fuel : Nat) (e : Node) (s : St) (h : isBlockNode e = false) :
    isBlockNode (toDdCond cfg fuel e s).1.1 = false ∧ ∀ r, (toDdCond cfg fuel e s).1.2 = some r → isBlockNode r = false :=
  toDdCond_keeps_false (fun r hr => by unfold isBlockNode; split <;> first | cases hr | rfl) cfg fuel e s h

def isBinNode : Node → Bool
  | .bin .. => true
  | _ => false

theorem toDdCond_nbin (cfg : Config) (fuel : Nat) (e : Node) (s : St) (h : isBinNode e = false) :
    isBinNode (toDdCond cfg fuel e s).1.1 = false ∧ ∀ r, (toDdCond cfg fuel e s).1.2 = some r → isBinNode r = false :=
  toDdCond_keeps_false (fun r hr => by unfold isBinNode; split <;> first | cases hr | rfl) cfg fuel e s h

end IastModel
