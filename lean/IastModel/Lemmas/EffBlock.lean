import IastModel.Lemmas.EffCount
/-
  No effect node is duplicated or lost (C02/C01): `eff` is conserved by the operation visitor, the block
  visitor and the program traversal.  `heavy` is blind to scaffolding, to what is copied into hook arguments
  and to hook calls themselves, so every transform leaves the weight as it was.
-/
namespace IastModel
open Node

theorem heavy_of_hook {x : Node} {m : String} (h : hookName? x = some m) : heavy x = false := by
  obtain ⟨_, _, _, _, _, _, rfl, _⟩ := hookName?_some h
  simp only [heavy, h]; rfl

theorem hookW_heavy {x : Node} {m : String} (h : hookName? x = some m) : hookW heavy x = 0 := by
  rw [hookW_of_ident copyBlind_heavy.ident, heavy_of_hook h]; rfl

theorem isTempIdent_visit (cfg : Config) (f : Nat) (root : Bool) (n : Node) (s : St) :
    isTempIdent (visit cfg f root n s).1 = isTempIdent n := by
  have hlf : ∀ k, isTempIdent k = true → leaf k = true := fun k h => by cases k <;> first | rfl | cases h
  cases hl : leaf n
  · have h1 := (visit_leaf cfg f root n s).1 hl
    cases ha : isTempIdent (visit cfg f root n s).1
    · cases hb : isTempIdent n
      · rfl
      · rw [hlf _ hb] at hl; cases hl
    · rw [hlf _ ha] at h1; cases h1
  · rw [(visit_leaf cfg f root n s).2 hl]

theorem heavy_withKids_other (n : Node) (ks : List Node)
    (hc : ∀ c as sp, n ≠ .call c as sp) (ha : ∀ op l r sp, n ≠ .assign op l r sp) : heavy (n.withKids ks) = heavy n := by
  cases n <;> first | rfl | (exfalso; exact hc _ _ _ rfl) | (exfalso; exact ha _ _ _ _ rfl)

theorem heavy_mapKids (cfg : Config) (ok : String → Bool) (hcfg : CfgOk ok cfg) (f : Nat) (r : Bool) (n : Node) (s : St)
    (h0 : ns n = 0) (ht : targetsOk n = true) (hs : StOk s) :
    heavy (mapKidsM mapM' (visit cfg f r) n s).1 = heavy n := by
  cases n with
  | call c as sp =>
    have h1 := hookName?_mapKids cfg ok hcfg f r (.call c as sp) s h0 ht hs
    simp only [mapKidsM, run_bind, run_pure, withKids] at h1 ⊢
    simp only [heavy, h1, hookName?_of_ns0 h0]
  | assign op l r' sp =>
    simp only [mapKidsM, kids, mapM', run_bind, run_pure, withKids, List.getD_cons_zero, List.getD_cons_succ, heavy]
    rw [isTempIdent_visit]
  | _ =>
    simp only [mapKidsM, run_bind, run_pure]
    exact heavy_withKids_other _ _ (by intro c as sp h; cases h) (by intro op l r sp h; cases h)

/-- the operation visitor keeps every effect node exactly once -/
theorem visit_E (cfg : Config) (ok : String → Bool) (hcfg : CfgOk ok cfg) : ∀ (f : Nat) (root : Bool) (n : Node) (s : St),
    ns n = 0 → targetsOk n = true → StOk s → eff (visit cfg f root n s).1 = eff n :=
  visit_rel_w (r := fun a b => b = a) (fun _ => rfl) (fun h1 h2 => h2.trans h1) (fun h1 h2 => by rw [h1, h2])
    scaf_heavy cfg ok hcfg (fun f r n s _ => heavy_mapKids cfg ok hcfg f r n s)
    (fun n => by
      obtain ⟨k, h, hk⟩ := scaf_heavy.c_toDdArrow (fun _ _ _ _ _ => rfl) n
      rw [h, hk fun _ _ => rfl]; rfl)
    (fun op l r sp s e' _ he => by
      obtain ⟨hn, h⟩ := toDdBinary_cnt scaf_heavy cfg op l r sp s e' he
      rw [h.eq copyBlind_heavy, hookW_heavy hn, scaf_heavy.c_bin, Nat.zero_add])
    (fun op l r sp s e' hts he => by
      obtain ⟨hn, κ, h, _, h0⟩ := toDdAssign_cnt scaf_heavy cfg op l r sp s e' he
      rw [h, h0 targetBlind_heavy hts, hookW_heavy hn, Nat.zero_add, Nat.add_zero])
    (fun es qs sp s e' he => by
      obtain ⟨hn, h⟩ := toDdTpl_cnt scaf_heavy cfg es qs sp s e' he
      rw [h.eq copyBlind_heavy, hookW_heavy hn, Nat.zero_add])
    (fun c as sp s e' tag hn he => by
      obtain ⟨⟨_, _, hm⟩, h⟩ := toDdCall_cnt scaf_heavy cfg c as sp s hn e' tag he
      rw [h.eq copyBlind_heavy, hookW_heavy hm, Nat.zero_add])

theorem isTempIdent_blockVisit (cfg : Config) (opFuel f : Nat) (n : Node) (s : St) :
    isTempIdent (blockVisit cfg opFuel f n s).1 = isTempIdent n := by
  by_cases ht : isTempIdent n = true
  · have hk : n.kids = [] := by cases n <;> simp_all [isTempIdent, kids]
    have hb : isBlockNode n = false := by cases n <;> simp_all [isTempIdent, isBlockNode]
    rw [(blockVisit_nokids cfg opFuel f n s hk hb).1]
  · simp only [Bool.not_eq_true] at ht
    rw [ht]
    cases f with
    | zero => simpa [blockVisit, run_bind, run_pure] using ht
    | succ f =>
      by_cases hb : isBlockNode n = true
      · cases n with
        | block ss sp =>
          obtain ⟨ss', h'⟩ := blockVisit_isBlock cfg opFuel (f + 1) ss sp s
          rw [h']; rfl
        | _ => simp [isBlockNode] at hb
      · simp only [Bool.not_eq_true] at hb
        rw [blockVisit_generic cfg opFuel f n hb]
        simp only [mapKidsM, run_bind, run_pure, isTempIdent_withKids]
        exact ht

theorem heavy_mapBlocks (cfg : Config) (ok : String → Bool) (hcfg : CfgOk ok cfg) (opFuel f : Nat) (n : Node) (s : St)
    (hn : hookName? n = none) (hs : StOk s) (hg : goodL ok true n.kids = true)
    (hfin : StOk (mapKidsM mapM' (blockVisit cfg opFuel f) n s).2) :
    heavy (mapKidsM mapM' (blockVisit cfg opFuel f) n s).1 = heavy n := by
  cases n with
  | call c as sp =>
    have h1 := hookName?_mapBlocks cfg ok hcfg opFuel f (.call c as sp) s hn hs hg hfin
    simp only [mapKidsM, run_bind, run_pure, withKids] at h1 ⊢
    simp only [heavy, h1, hn]
  | assign op l r sp =>
    simp only [mapKidsM, kids, mapM', run_bind, run_pure, withKids, List.getD_cons_zero, List.getD_cons_succ, heavy]
    rw [isTempIdent_blockVisit]
  | _ =>
    simp only [mapKidsM, run_bind, run_pure]
    exact heavy_withKids_other _ _ (by intro c as sp h; cases h) (by intro op l r sp h; cases h)

theorem letDecl_eff (idents : List Nat) (sp : Span) : eff (letDecl idents sp) = 0 :=
  letDecl_cnt (fun k _ _ _ h => by rcases h with rfl | rfl <;> rfl) (fun _ => rfl) (fun _ => rfl) (fun _ _ => rfl) idents sp

theorem eff_insertPrologue (pro : List Node) (k : String) (sp : Span) (ns' : List String) (body vs : List Node) :
    eff (insertPrologue pro (.other k sp ("body" :: ns') (.arr body :: vs))) =
      eff (.other k sp ("body" :: ns') (.arr body :: vs)) + effL pro :=
  count_insertPrologue heavy pro k sp ns' body vs (fun _ => rfl) (fun _ => rfl)

/-- **No effect node is duplicated or lost.**  For every configuration, fuel and program (hypotheses
    as in `master`), unless the rewrite is refused, the output is `p1` or `p1` with the prologue
    inserted, where `p1` contains exactly as many effect nodes — calls other than hook calls, optional
    calls, `new`, `++`/`--`, `yield`, `await`, tagged templates, function / class / object expressions,
    `delete`, template literals, assignments to anything but an injected temporary — as the source. -/
theorem effect_nodes_preserved_master (cfg : Config) (fuel : Nat) (p : Node) (h0 : ns p = 0) (ht : targetsOk p = true)
    (hnc : (transformProgram cfg fuel p).status ≠ .cancelled) :
    ∃ p1, eff p1 = eff p ∧
      (transformProgram cfg fuel p).out =
        (if (transformProgram cfg fuel p).status = .modified then insertPrologue (prologue cfg.dsts) p1 else p1) := by
  obtain ⟨hfin, hst, _, hout, _⟩ := transformProgram_run cfg fuel p hnc
  refine ⟨_, ?_, by rw [hout, hst]⟩
  have hcfg := cfgOk_dsts cfg
  exact program_rel (R := fun _ _ a b => b = a)
    (CRel.ofWeights (fun _ => rfl) (fun h1 h2 => h2.trans h1) (fun h1 h2 => by rw [h1, h2])) cfg (okCfg cfg) hcfg
    (visit_E cfg (okCfg cfg) hcfg) letDecl_eff (fun _ _ => rfl)
    (fun c as as' sp => by simp only [heavy, hookName?_args c as as' sp sp])
    (fun opFuel f n s hb hn hs hg hfin => heavy_mapBlocks cfg (okCfg cfg) hcfg opFuel f n s hn hs (goodL_kids hb hn hg) hfin)
    (fun fuel prog h0 ht hfin => heavy_mapBlocks cfg (okCfg cfg) hcfg fuel fuel prog {} (hookName?_of_ns0 h0)
      (by intro h; cases h) (goodL_kids_of_ns0 _ h0 ht) hfin)
    fuel p h0 ht hfin

end IastModel
