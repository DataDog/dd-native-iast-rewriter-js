import IastModel.Lemmas.MirOp
namespace IastModel
open Node

theorem litSumSpec_eq : ∀ e : Node, isNonLiteralSum.litSumSpec e = isLiteralSum e := by
  apply Node.ind
  intro e ih
  cases e with
  | bin op l r sp =>
    by_cases hop : op = "+"
    · subst hop
      simp only [isNonLiteralSum.litSumSpec, isLiteralSum, beq_self_eq_true, Bool.true_and]
      rw [ih l (by simp [kids]), ih r (by simp [kids])]
    · have : (op == "+") = false := by simpa using hop
      simp only [isLiteralSum, this, Bool.false_and]
      unfold isNonLiteralSum.litSumSpec
      split
      · rename_i h; cases h
      · rename_i h; cases h; exact absurd rfl hop
      · rfl
  | lit k v r sp => simp [isNonLiteralSum.litSumSpec, isLiteralSum]
  | _ => simp [isNonLiteralSum.litSumSpec, isLiteralSum]

theorem isNonLiteralSum_eq (e : Node) : isNonLiteralSum e = nlSum e := by
  simp [isNonLiteralSum, nlSum, litSumSpec_eq]

def sumArg (a : Node) : Bool := isNonLiteralSum (argOf a)

/-- the pushed list mirrors the expected list, or the expected list has a non-literal sum in it -/
def Mir (pushes exp : List Node) : Prop := argsEq pushes exp = true ∨ exp.any sumArg = true

theorem Mir.nil : Mir [] [] := Or.inl (by simp [argsEq, eqNSL])

theorem Mir.append {a b c d : List Node} (h1 : Mir a b) (h2 : Mir c d) : Mir (a ++ c) (b ++ d) := by
  rcases h1 with h1 | h1
  · rcases h2 with h2 | h2
    · exact Or.inl (eqNSL_append h1 h2)
    · exact Or.inr (by simp [List.any_append, h2])
  · exact Or.inr (by simp [List.any_append, h1])

theorem Mir.refl (l : List Node) : Mir l l := Or.inl (eqNSL_refl l)

theorem eqNS_exprOrSpread (e : Node) (s : Option Span) : eqNS (exprOrSpread e (kindOf s)) (.arg s e) = true := by
  cases s <;> simp [kindOf, exprOrSpread, eqNS, eqNS_refl]

theorem Mir.pushOf (e : Node) (s : Option Span) : Mir (pushOf e (kindOf s)) [.arg s e] := by
  unfold IastModel.pushOf
  by_cases h : nlSum e = true
  · right; simp [sumArg, argOf, isNonLiteralSum_eq, h]
  · left; simp [h, argsEq, eqNSL, eqNS_exprOrSpread]

theorem Mir.flatten {α} (f g : α → List Node) (xs : List α) (h : ∀ x ∈ xs, Mir (f x) (g x)) :
    Mir (xs.map f).flatten (xs.map g).flatten := by
  induction xs with
  | nil => exact Mir.nil
  | cons x xs ih =>
    simp only [List.map_cons, List.flatten_cons]
    exact Mir.append (h x (by simp)) (ih (fun y hy => h y (by simp [hy])))

/-- a hook site mirrors its operation, or the operation has a non-literal sum among its operands (the
    omission recorded as a known finding) -/
def MirOK (cfg : Config) (h : Node) : Prop :=
  argsMirrorSite cfg h = none ∨
    ∃ w, (w = "plus" ∨ w = "tpl" ∨ w = "call") ∧ argsMirrorSite cfg h = some (sumClass cfg w)

theorem argsMirrorSite_ddCall (cfg : Config) (first : Node) (args : List Node) (name : String) (sp : Span) :
    argsMirrorSite cfg (ddCall first args name sp) = argsMirrorFirst cfg name first args := by
  simp [argsMirrorSite, ddCall, ddCallee]

theorem mirrorPlus_of_Mir (cfg : Config) (l r : Node) (rest : List Node) (h : Mir rest [.arg none l, .arg none r]) :
    mirrorPlus cfg cfg.plusName l r rest = none ∨ mirrorPlus cfg cfg.plusName l r rest = some (sumClass cfg "plus") := by
  unfold mirrorPlus
  simp only [bne_self_eq_false, Bool.false_eq_true, if_false]
  rcases h with h | h
  · left; simp [h]
  · by_cases he : argsEq rest [.arg none l, .arg none r] = true
    · left; simp [he]
    · right
      simp only [he, Bool.false_eq_true, if_false]
      have : (isNonLiteralSum l || isNonLiteralSum r) = true := by
        simpa [sumArg, argOf] using h
      simp [this]

theorem replaceExpr_false (e : Node) (mode : IdentMode) (asg args : List Node) (sp : Span) (k : IdentKind) :
    replaceExpr e mode asg args sp k false = replaceExprNoExpand e mode asg args sp k := by
  cases e <;> rfl

theorem replaceTplExprs_notArg : ∀ (xs asg args : List Node) (s : St),
    ∀ e ∈ (replaceTplExprs xs asg args s).1.1, isArgNode e = false := by
  intro xs
  induction xs with
  | nil => intro asg args s e he; simp [replaceTplExprs, run_pure] at he
  | cons x xs ih =>
    intro asg args s e he
    simp only [replaceTplExprs, run_bind, run_pure, List.mem_cons] at he
    rcases he with he | he
    · rw [he, replaceExpr_false]
      exact (replaceExprNoExpand_push ..).2.notArg
    · exact ih _ _ _ e he

theorem mirrorOf_notArg {e : Node} (h : isArgNode e = false) : mirrorOf e = .arg none e := by
  cases e <;> simp_all [mirrorOf, isArgNode]

theorem map_singleton_flatten {α β} (f : α → β) (l : List α) : l.map f = (l.map fun e => [f e]).flatten := by
  induction l with
  | nil => rfl
  | cons x xs ih => simp [← ih]

def expOf (expand : Bool) (a : Node) : List Node := if expand then expandApplyArg a else [a]

theorem Mir_elem (el : Node) : Mir (pushOfElem el) [applyElem el] := by
  cases el with
  | arg s e => exact Mir.pushOf e s
  | _ => exact Mir.refl _

theorem expandApplyArg_notArray {sp : Option Span} {e : Node} (h : isArrayNode e = false) :
    expandApplyArg (.arg sp e) = [.arg sp e] := by
  unfold expandApplyArg; split
  · rename_i heq; cases heq; cases h
  · rfl

theorem Mir_argX (expand : Bool) (a : Node) (h : isArgNode a = true) : Mir (pushOfArgX expand a) (expOf expand a) := by
  cases a with
  | arg sp e =>
    cases expand with
    | false =>
      show Mir (pushOfX e (kindOf sp) false) [.arg sp e]
      rw [pushOfX_false]; exact Mir.pushOf e sp
    | true =>
      show Mir (pushOfX e (kindOf sp) true) (expandApplyArg (.arg sp e))
      by_cases ha : isArrayNode e = true
      · unfold isArrayNode at ha; split at ha
        · rename_i els asp
          show Mir (els.map pushOfElem).flatten (els.map applyElem)
          rw [map_singleton_flatten applyElem els]
          exact Mir.flatten _ _ _ fun x _ => Mir_elem x
        · cases ha
      · rw [Bool.not_eq_true] at ha
        rw [pushOfX_notArray ha, expandApplyArg_notArray ha]; exact Mir.pushOf e sp
  | _ => cases h

theorem replaceArg_shape (spread : Option Span) (e : Node) (mode : IdentMode) (asg args : List Node) (sp : Span) (expand : Bool) (s : St) :
    ∃ e', (replaceArg (.arg spread e) mode asg args sp expand s).1.1 = .arg spread e' := by
  simp only [replaceArg, run_bind, run_pure]
  exact ⟨_, rfl⟩

def flagsOf (a : Node) : Bool × Bool := (isArgNode a, isSpreadArg a)

theorem replaceArgs_flags (mode : IdentMode) (sp : Span) (expand : Bool) : ∀ (xs asg args : List Node) (s : St),
    (replaceArgs mode sp expand xs asg args s).1.1.map flagsOf = xs.map flagsOf := by
  intro xs
  induction xs with
  | nil => intro asg args s; simp [replaceArgs, run_pure]
  | cons x xs ih =>
    intro asg args s
    simp only [replaceArgs, run_bind, run_pure, List.map_cons]
    rw [ih _ _ _]
    congr 1
    cases x with
    | arg spread e =>
      obtain ⟨e', he⟩ := replaceArg_shape spread e mode asg args sp expand s
      rw [he]; cases spread <;> rfl
    | _ => simp [replaceArg, run_pure]

theorem pushes_callArgs (expand : Bool) (xs : List Node) :
    (xs.map (pushOfArgX expand)).flatten = ((callArgs xs).map (pushOfArgX expand)).flatten := by
  induction xs with
  | nil => rfl
  | cons x xs ih =>
    unfold callArgs at ih ⊢
    rw [List.filter_cons, List.map_cons, List.flatten_cons, ih]
    by_cases hx : isArgNode x = true
    · rw [if_pos hx]; rfl
    · rw [if_neg hx]
      have : pushOfArgX expand x = [] := by
        unfold pushOfArgX; split
        · exact absurd rfl hx
        · rfl
      rw [this]; rfl

theorem callArgs_isArg (xs : List Node) : ∀ a ∈ callArgs xs, isArgNode a = true := by
  intro a ha
  simp only [callArgs, List.mem_filter] at ha
  exact ha.2

theorem callArgs_flags {xs ys : List Node} (h : xs.map flagsOf = ys.map flagsOf) :
    (callArgs xs).map flagsOf = (callArgs ys).map flagsOf := by
  induction xs generalizing ys with
  | nil => cases ys with
    | nil => rfl
    | cons y ys => simp at h
  | cons x xs ih =>
    cases ys with
    | nil => simp at h
    | cons y ys =>
      simp only [List.map_cons, List.cons.injEq] at h
      have h1 : isArgNode x = isArgNode y := congrArg Prod.fst h.1
      simp only [callArgs, List.filter_cons, h1]
      split
      · simp only [List.map_cons, h.1]
        congr 1
        exact ih h.2
      · exact ih h.2

def expArgs (expand : Bool) (cargs : List Node) : List Node := (cargs.map (expOf expand)).flatten

theorem expArgs_false (cargs : List Node) : expArgs false cargs = cargs := by
  unfold expArgs expOf
  simp only [Bool.false_eq_true, if_false]
  exact (map_singleton_flatten id cargs).symm.trans (by simp)

theorem mirrorCall_of_Mir (cfg : Config) (first : Node) (rest exp : List Node)
    (he : expectedCallArgs first = some exp) (hm : Mir rest exp) :
    mirrorCall cfg first rest = none ∨ mirrorCall cfg first rest = some (sumClass cfg "call") := by
  unfold mirrorCall
  rw [he]
  simp only
  rcases hm with hm | hm
  · left; simp [hm]
  · by_cases heq : argsEq rest exp = true
    · left; simp [heq]
    · right
      have : exp.any (fun a => isNonLiteralSum (argOf a)) = true := hm
      simp [heq, this]

theorem mirrorBare_of_Mir (cfg : Config) (f : Node) (cargs rest0 : List Node) (usp : Span) (hm : Mir rest0 (callArgs cargs)) :
    mirrorBare cfg f cargs (.arg none f :: .arg none (.ident (.user "undefined") usp) :: rest0) = none ∨
    mirrorBare cfg f cargs (.arg none f :: .arg none (.ident (.user "undefined") usp) :: rest0) = some (sumClass cfg "call") := by
  unfold mirrorBare
  simp only [eqNS_refl, Bool.true_and]
  generalize callArgs cargs = A at hm
  rcases hm with hm | hm
  · left; simp [hm]
  · by_cases heq : argsEq rest0 A = true
    · left; simp [heq]
    · right
      have : A.any (fun a => isNonLiteralSum (argOf a)) = true := hm
      simp [heq, this]

theorem isCallOrApply_cases {x : String} (h : isCallOrApply x = true) : x = Generated.callMethodName ∨ x = Generated.applyMethodName := by
  simpa [isCallOrApply] using h

theorem apply_ne_call : (Generated.applyMethodName == Generated.callMethodName) = false := by decide
theorem call_ne_apply : (Generated.callMethodName == Generated.applyMethodName) = false := by decide

theorem propName_cases (coa : Option String) (h : ∀ x, coa = some x → isCallOrApply x = true) :
    coa.getD Generated.callMethodName = Generated.callMethodName ∨ coa.getD Generated.callMethodName = Generated.applyMethodName := by
  cases coa with
  | none => exact Or.inl rfl
  | some x => exact isCallOrApply_cases (h x rfl)

theorem expOf_true : expOf true = expandApplyArg := by funext a; simp [expOf]

theorem argIsSpread_eq (a : Node) : argIsSpread a = isSpreadArg a := by
  cases a with
  | arg s e => cases s <;> rfl
  | _ => rfl

theorem expected_call (f : Node) (p1 p2 p3 : Span) (cargs : List Node) :
    expectedCallArgs (.call (.member f (.pname Generated.callMethodName p1) p2) cargs p3) = some (.arg none f :: callArgs cargs) := by
  simp [expectedCallArgs]

theorem expected_apply_this (f : Node) (p1 p2 p3 : Span) (cargs : List Node) (this : Node) (rest : List Node)
    (hc : callArgs cargs = this :: rest) (h : isSpreadArg this = false) :
    expectedCallArgs (.call (.member f (.pname Generated.applyMethodName p1) p2) cargs p3) =
      some (.arg none f :: this :: expArgs true rest) := by
  simp [expectedCallArgs, apply_ne_call, hc, h, expArgs, expOf_true]

theorem expected_apply_spread (f : Node) (p1 p2 p3 : Span) (cargs : List Node) (this : Node) (rest : List Node)
    (hc : callArgs cargs = this :: rest) (h : isSpreadArg this = true) :
    expectedCallArgs (.call (.member f (.pname Generated.applyMethodName p1) p2) cargs p3) =
      some (.arg none f :: expArgs true (callArgs cargs)) := by
  simp [expectedCallArgs, apply_ne_call, hc, h, expArgs, expOf_true]

theorem callArgs_cons_arg (s : Option Span) (e : Node) (xs : List Node) : callArgs (.arg s e :: xs) = .arg s e :: callArgs xs := by
  simp [callArgs, List.filter_cons, isArgNode]

theorem Mir.cons (a : Node) {p e : List Node} (h : Mir p e) : Mir (a :: p) (a :: e) :=
  Mir.append (Mir.refl [a]) h

end IastModel
