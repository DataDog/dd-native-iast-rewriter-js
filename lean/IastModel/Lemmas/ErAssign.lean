import IastModel.Lemmas.ErDeep
namespace IastModel
open Node

/-- a `+=` target taken apart: `tk` is written where the target stood and erases to `e`; `ok` is the
    expression that reads the same place back and erases to `eo` (under the bindings `tk` made) -/
def PairEr (cx : Cx) (lo hi : Nat) (e eo tk ok : Node) (s s1 : St) : Prop :=
  s.counter ≤ s1.counter ∧
  ∀ tk'', BRg tk tk'' → ∀ σ, cx.ext σ → ∃ T Δt, erase σ tk'' = (T, Δt ++ σ) ∧ ESim T e ∧ WinU lo hi s.counter s1.counter Δt ∧
    ∀ ok'', BRg ok ok'' → ∀ Δ2, Avoid s.counter s1.counter Δ2 → AvoidP cx.bad Δ2 →
      ∃ O Δo, erase (Δ2 ++ (Δt ++ σ)) ok'' = (O, Δo ++ (Δ2 ++ (Δt ++ σ))) ∧ ESim O eo ∧ Win lo hi Δo

theorem pairEr_same {cx : Cx} {lo hi : Nat} {e' e : Node} (s : St) (hw : HypW cx hi s) (hE : Er cx lo hi e' e) :
    PairEr cx lo hi e e e' e' s s := by
  refine ⟨Nat.le_refl _, ?_⟩
  intro tk'' htk σ hσ
  obtain ⟨X, Δ, eX, sX, wX⟩ := hE tk'' htk σ hσ
  refine ⟨X, Δ, eX, sX, wX.winU, ?_⟩
  intro ok'' hok Δ2 _ hac
  exact hE ok'' hok _ (Cx.ext_append (Cx.ext_append hσ (wX.avoidP hw.h1)) hac)

theorem seqOperand_Er {cx : Cx} {lo hi : Nat} {x' x : Node} (h : Er cx lo hi x' x) : Er cx lo hi (seqOperand x') x :=
  tplOperand_Er h

theorem erase_paren_loose (σ : Env) (e : Node) (sp : Span) (h : (e.span == sp) = false) :
    erase σ (.paren e sp) = (.paren (erase σ e).1 sp, (erase σ e).2) := by
  simp only [erase, h, Bool.false_eq_true, if_false]

theorem hoistTargetPart_Er (cx : Cx) (lo hi : Nat) (e' e : Node) (sp : Span) (s : St) (hw : HypW cx hi s)
    (hE : Er cx lo hi e' e) :
    PairEr cx lo hi e e (hoistTargetPart e' sp s).1.1 (hoistTargetPart e' sp s).1.2 s (hoistTargetPart e' sp s).2 := by
  have hE' := seqOperand_Er hE
  unfold hoistTargetPart
  simp only [run_bind]
  rcases getTemporalIdent_casesC (seqOperand e') [] sp .expr s with ⟨_, h⟩ | ⟨_, s', h, hc⟩
  · rw [h]; simp only [run_pure]
    exact pairEr_same s hw hE'
  · rw [h]
    simp only [List.nil_append, List.getLast?_singleton, run_pure]
    refine ⟨by rw [hc]; exact Nat.le_succ _, ?_⟩
    intro tk'' htk σ hσ
    obtain ⟨a'', rfl, ha⟩ := htk.paren_inv
    obtain ⟨X, Δe, hasg, sX, wX⟩ := tempAssign_Er hE' _ .expr sp a'' ha σ hσ
    refine ⟨X, (s.counter, X) :: Δe, ?_, sX, ?_, ?_⟩
    · rw [erase_paren_tight _ _ _ (by rw [BRg.span _ _ ha]; exact beq_self_eq_true _), hasg]; rfl
    · exact WinU.cons_key X wX (Nat.le_refl _) (by rw [hc]; exact Nat.lt_succ_self _)
    · intro ok'' hok Δ2 hav _
      rw [BRg_noBlk (noBlk_tempIdent _) hok]
      exact ⟨X, [], erase_temp_bound hav (Nat.le_refl _) (by rw [hc]; exact Nat.lt_succ_self _) X _, sX, Win.nil _ _⟩

theorem noSp_other (k : String) (sp : Span) (ns : List String) (vs : List Node) : noSp (.other k sp ns vs) := by
  simp [noSp, unSpread]

/-- two parts handled one after the other, put back under a two-child node `W` -/
theorem pairEr_two {cx : Cx} {lo hi : Nat} (W : Node → Node → Node)
    (hW : ∀ σ a b, erase σ (W a b) = (W (erase σ a).1 (erase (erase σ a).2 b).1, (erase (erase σ a).2 b).2))
    (hS : ∀ A B a b, ESim A a → ESim B b → ESim (W A B) (W a b))
    (hWi : ∀ a b m, BRg (W a b) m → ∃ a'' b'', m = W a'' b'' ∧ BRg a a'' ∧ BRg b b'')
    {a ao b bo ta oa tb ob : Node} {s s1 s2 : St} (hw : HypW cx hi s)
    (h1 : PairEr cx lo hi a ao ta oa s s1) (h2 : PairEr cx lo hi b bo tb ob s1 s2) :
    PairEr cx lo hi (W a b) (W ao bo) (W ta tb) (W oa ob) s s2 := by
  obtain ⟨c1, P1⟩ := h1
  obtain ⟨c2, P2⟩ := h2
  have hw1 : HypW cx hi s1 := hw.mono c1
  refine ⟨Nat.le_trans c1 c2, ?_⟩
  intro tk'' htk σ hσ
  obtain ⟨ta'', tb'', rfl, hta, htb⟩ := hWi _ _ _ htk
  obtain ⟨Ta, Δa, eTa, sTa, wa, Ra⟩ := P1 ta'' hta σ hσ
  have hσ1 : cx.ext (Δa ++ σ) := Cx.ext_append hσ (wa.avoidCx hw)
  obtain ⟨Tb, Δb, eTb, sTb, wb, Rb⟩ := P2 tb'' htb _ hσ1
  refine ⟨W Ta Tb, Δb ++ Δa, ?_, hS _ _ _ _ sTa sTb, ?_, ?_⟩
  · rw [hW, eTa]; simp only; rw [eTb]; simp [List.append_assoc]
  · exact (wb.mono c1 (Nat.le_refl _)).append (wa.mono (Nat.le_refl _) c2)
  · intro ok'' hok Δ2 hav hac
    obtain ⟨oa'', ob'', rfl, hoa, hob⟩ := hWi _ _ _ hok
    have hA : Avoid s.counter s1.counter (Δ2 ++ Δb) :=
      (hav.sub (Nat.le_refl _) c2).append (wb.avoid hw.h3 (Nat.le_refl _))
    have hC : AvoidP cx.bad (Δ2 ++ Δb) := hac.append (wb.avoidCx hw1)
    obtain ⟨Oa, Δoa, eOa, sOa, woa⟩ := Ra oa'' hoa (Δ2 ++ Δb) hA hC
    have hA2 : Avoid s1.counter s2.counter (Δoa ++ Δ2) :=
      (woa.avoid hw1.h3).append (hav.sub c1 (Nat.le_refl _))
    have hC2 : AvoidP cx.bad (Δoa ++ Δ2) := (woa.avoidP hw.h1).append hac
    obtain ⟨Ob, Δob, eOb, sOb, wob⟩ := Rb ob'' hob (Δoa ++ Δ2) hA2 hC2
    refine ⟨W Oa Ob, Δob ++ Δoa, ?_, hS _ _ _ _ sOa sOb, wob.append woa⟩
    have e1 : Δ2 ++ (Δb ++ Δa ++ σ) = Δ2 ++ Δb ++ (Δa ++ σ) := by simp [List.append_assoc]
    rw [hW, e1, eOa]
    simp only
    have e2 : Δoa ++ (Δ2 ++ Δb ++ (Δa ++ σ)) = Δoa ++ Δ2 ++ (Δb ++ (Δa ++ σ)) := by simp [List.append_assoc]
    rw [e2, eOb]
    simp [List.append_assoc]

theorem pairEr_member {cx : Cx} {lo hi : Nat} (msp : Span) {a ao b bo ta oa tb ob : Node} {s s1 s2 : St} (hw : HypW cx hi s)
    (h1 : PairEr cx lo hi a ao ta oa s s1) (h2 : PairEr cx lo hi b bo tb ob s1 s2) :
    PairEr cx lo hi (.member a b msp) (.member ao bo msp) (.member ta tb msp) (.member oa ob msp) s s2 :=
  pairEr_two (fun a b => .member a b msp) (fun σ a b => by simp only [erase])
    (fun A B a b h1 h2 => ⟨by simp only [strip, h1.1, h2.1], Or.inl rfl, noSp_member _ _ _⟩)
    (fun a b m h => h.member_inv) hw h1 h2

theorem pairEr_other2 {cx : Cx} {lo hi : Nat} (k : String) (sp : Span) (ns : List String) {a ao b bo ta oa tb ob : Node}
    {s s1 s2 : St} (hw : HypW cx hi s) (h1 : PairEr cx lo hi a ao ta oa s s1) (h2 : PairEr cx lo hi b bo tb ob s1 s2) :
    PairEr cx lo hi (.other k sp ns [a, b]) (.other k sp ns [ao, bo]) (.other k sp ns [ta, tb]) (.other k sp ns [oa, ob]) s s2 := by
  refine pairEr_two (fun a b => .other k sp ns [a, b]) (fun σ a b => by simp only [erase, eraseL])
    (fun A B a b h1 h2 => ⟨by simp only [strip, stripL, h1.1, h2.1], Or.inl rfl, noSp_other _ _ _ _⟩) ?_ hw h1 h2
  intro a b m h
  obtain ⟨vs', rfl, hv⟩ := h.other_inv
  obtain ⟨a'', t, rfl, ha, ht⟩ := BRgL.cons_inv hv
  obtain ⟨b'', rfl, hb⟩ := BRgL.single_inv ht
  exact ⟨a'', b'', rfl, ha, hb⟩

/-- wrapping a single part under a one-child generic node -/
theorem pairEr_other1 {cx : Cx} {lo hi : Nat} (k : String) (sp : Span) (ns : List String)
    {a ao ta oa : Node} {s s1 : St} (h : PairEr cx lo hi a ao ta oa s s1) :
    PairEr cx lo hi (.other k sp ns [a]) (.other k sp ns [ao]) (.other k sp ns [ta]) (.other k sp ns [oa]) s s1 := by
  obtain ⟨c1, P1⟩ := h
  refine ⟨c1, ?_⟩
  intro tk'' htk σ hσ
  obtain ⟨vs', rfl, hv⟩ := htk.other_inv
  obtain ⟨ta'', rfl, hta⟩ := BRgL.single_inv hv
  obtain ⟨Ta, Δa, eTa, sTa, wa, Ra⟩ := P1 ta'' hta σ hσ
  refine ⟨.other k sp ns [Ta], Δa, by simp only [erase, eraseL, eTa], ?_, wa, ?_⟩
  · exact ⟨by simp only [strip, stripL, sTa.1], Or.inl rfl, noSp_other _ _ _ _⟩
  · intro ok'' hok Δ2 hav hac
    obtain ⟨vs2, rfl, hv2⟩ := hok.other_inv
    obtain ⟨oa'', rfl, hoa⟩ := BRgL.single_inv hv2
    obtain ⟨Oa, Δoa, eOa, sOa, woa⟩ := Ra oa'' hoa Δ2 hav hac
    refine ⟨.other k sp ns [Oa], Δoa, by simp only [erase, eraseL, eOa], ?_, woa⟩
    exact ⟨by simp only [strip, stripL, sOa.1], Or.inl rfl, noSp_other _ _ _ _⟩

theorem stripL_length : ∀ {a b : List Node}, stripL a = stripL b → a.length = b.length := by
  intro a
  induction a with
  | nil => intro b h; cases b <;> simp_all [stripL]
  | cons x xs ih =>
    intro b h
    cases b with
    | nil => simp [stripL] at h
    | cons y ys => simp only [stripL, List.cons.injEq] at h; simp [ih h.2]

theorem eraseL_length (σ : Env) (xs : List Node) : (eraseL σ xs).1.length = xs.length := by
  induction xs generalizing σ with
  | nil => rfl
  | cons x xs ih => simp only [eraseL, List.length_cons, ih]

theorem Er_strip_other {cx : Cx} {lo hi : Nat} {k : String} {sp : Span} {ns : List String} {vs' : List Node} {n : Node}
    (h : Er cx lo hi (.other k sp ns vs') n) : ∃ sp2 vs, n = .other k sp2 ns vs ∧ vs.length = vs'.length := by
  obtain ⟨X, Δ, eX, sX, _⟩ := h _ (BRg.refl _) cx.base cx.ext_base
  simp only [erase] at eX
  have hX : X = .other k sp ns (eraseL cx.base vs').1 := by
    have := congrArg Prod.fst eX; simpa using this.symm
  have hs := sX.1
  rw [hX] at hs
  simp only [strip] at hs
  obtain ⟨sp2, vs, rfl, hv⟩ := strip_eq_other hs.symm
  exact ⟨sp2, vs, rfl, by rw [stripL_length hv, eraseL_length]⟩

theorem Er_strip_member {cx : Cx} {lo hi : Nat} {o' p' : Node} {sp : Span} {n : Node}
    (h : Er cx lo hi (.member o' p' sp) n) : ∃ o p sp2, n = .member o p sp2 := by
  obtain ⟨X, Δ, eX, sX, _⟩ := h _ (BRg.refl _) cx.base cx.ext_base
  simp only [erase] at eX
  have hX : X = .member (erase cx.base o').1 (erase (erase cx.base o').2 p').1 sp := by
    have := congrArg Prod.fst eX; simpa using this.symm
  have hs := sX.1
  rw [hX] at hs
  simp only [strip] at hs
  exact strip_eq_member hs.symm

theorem splitComputedKey_Er (cx : Cx) (lo hi : Nat) (csp : Span) (e' e : Node) (sp : Span) (s : St) (hw : HypW cx hi s)
    (hE : Er cx lo hi e' e) :
    PairEr cx lo hi (.other "Computed" csp ["expression"] [e]) (.other "Computed" csp ["expression"] [e])
      (splitComputedKey csp e' sp s).1.1 (splitComputedKey csp e' sp s).1.2 s (splitComputedKey csp e' sp s).2 := by
  unfold splitComputedKey
  simp only [run_bind, run_pure]
  have h := hoistTargetPart_Er cx lo hi e' e sp s hw hE
  generalize hoistTargetPart e' sp s = R at h ⊢
  obtain ⟨⟨tk, okk⟩, s'⟩ := R
  exact pairEr_other1 "Computed" csp ["expression"] h

theorem splitProp_Er (cx : Cx) (lo hi : Nat) (prop' prop : Node) (sp : Span) (s : St) (hw : HypW cx hi s)
    (hE : Er cx lo hi prop' prop) (hD : Deep lo hi prop' prop) :
    PairEr cx lo hi prop prop (splitProp prop' sp s).1.1 (splitProp prop' sp s).1.2 s (splitProp prop' sp s).2 := by
  unfold splitProp
  split
  · rename_i csp e'
    split
    · obtain ⟨sp2, vs, rfl, hl⟩ := Er_strip_other hE
      match vs, hl with
      | [e], _ =>
        simp only [Deep, DeepL] at hD
        obtain ⟨_, rfl, _, hEe, _, _⟩ := hD
        exact splitComputedKey_Er cx lo hi sp2 e' e sp s hw (hEe.er cx)
    · simp only [run_pure]; exact pairEr_same s hw hE
  · simp only [run_pure]; exact pairEr_same s hw hE

theorem pairEr_paren {cx : Cx} {lo hi : Nat} {a ao ta oa : Node} {psp : Span} {s s1 : St}
    (hl : (ta.span == psp) = false) (h : PairEr cx lo hi a ao ta oa s s1) :
    PairEr cx lo hi (.paren a psp) ao (.paren ta psp) oa s s1 := by
  obtain ⟨c1, P1⟩ := h
  refine ⟨c1, ?_⟩
  intro tk'' htk σ hσ
  obtain ⟨ta'', rfl, hta⟩ := htk.paren_inv
  obtain ⟨Ta, Δa, eTa, sTa, wa, Ra⟩ := P1 ta'' hta σ hσ
  have hl' : (ta''.span == psp) = false := by rw [BRg.span _ _ hta]; exact hl
  refine ⟨.paren Ta psp, Δa, by rw [erase_paren_loose _ _ _ hl', eTa], ?_, wa, Ra⟩
  exact ⟨by simp only [strip, sTa.1], Or.inl rfl, by simp [noSp, unSpread]⟩

/-- the part written to has the position of the target, and is a temporary only if the target is -/
theorem splitTarget_head (sp : Span) (left : Node) (s : St) :
    (splitMemberTarget left sp s).1.1.span = left.span ∧ tempTarget? (splitMemberTarget left sp s).1.1 = tempTarget? left := by
  unfold splitMemberTarget
  split
  · split
    · simp only []
      split <;> exact ⟨rfl, rfl⟩
    · exact ⟨rfl, rfl⟩
  · split <;> exact ⟨rfl, rfl⟩
  · split <;> exact ⟨rfl, rfl⟩
  · exact ⟨rfl, rfl⟩

theorem splitMemberTarget_Er (cx : Cx) (lo hi : Nat) (sp : Span) : ∀ (left' left : Node) (s : St), HypW cx hi s →
    Er cx lo hi left' left → Deep lo hi left' left →
    ∃ eo, PairEr cx lo hi left eo (splitMemberTarget left' sp s).1.1 (splitMemberTarget left' sp s).1.2 s
      (splitMemberTarget left' sp s).2 := by
  apply Node.ind
  intro left' ih left s hw hE hD
  unfold splitMemberTarget
  split
  · rename_i obj' prop' msp
    obtain ⟨obj, prop, sp2, rfl⟩ := Er_strip_member hE
    simp only [Deep] at hD
    obtain ⟨rfl, hEo, hEp, hDo, hDp, _⟩ := hD
    split
    · simp only []
      refine ⟨.member obj prop sp2, ?_⟩
      split
      · -- the object is read again as it is
        simp only [run_bind, run_pure]
        have h1 : PairEr cx lo hi obj obj obj' obj' s s := pairEr_same s hw (hEo.er cx)
        have h2 := splitProp_Er cx lo hi prop' prop sp s hw (hEp.er cx) hDp
        generalize splitProp prop' sp s = R2 at h2 ⊢
        obtain ⟨⟨tprop, oprop⟩, s2⟩ := R2
        exact pairEr_member sp2 hw h1 h2
      · simp only [run_bind, run_pure]
        have h1 := hoistTargetPart_Er cx lo hi obj' obj sp s hw (hEo.er cx)
        generalize hoistTargetPart obj' sp s = R1 at h1 ⊢
        obtain ⟨⟨tobj, oobj⟩, s1⟩ := R1
        have h2 := splitProp_Er cx lo hi prop' prop sp s1 (hw.mono h1.1) (hEp.er cx) hDp
        generalize splitProp prop' sp s1 = R2 at h2 ⊢
        obtain ⟨⟨tprop, oprop⟩, s2⟩ := R2
        exact pairEr_member sp2 hw h1 h2
    · simp only [run_pure]
      exact ⟨_, pairEr_same s hw hE⟩
  · rename_i ssp sup' prop'
    split
    · simp only [run_bind, run_pure]
      obtain ⟨sp2, vs, rfl, hl⟩ := Er_strip_other hE
      match vs, hl with
      | [sup, prop], _ =>
        simp only [Deep, DeepL] at hD
        obtain ⟨_, rfl, _, hEs, _, hEp, hDp, _⟩ := hD
        have h1 : PairEr cx lo hi sup sup sup' sup' s s := pairEr_same s hw (hEs.er cx)
        have h2 := splitProp_Er cx lo hi prop' prop sp s hw (hEp.er cx) hDp
        generalize splitProp prop' sp s = R2 at h2 ⊢
        obtain ⟨⟨tprop, oprop⟩, s2⟩ := R2
        exact ⟨_, pairEr_other2 _ _ _ hw h1 h2⟩
    · simp only [run_pure]
      exact ⟨_, pairEr_same s hw hE⟩
  · rename_i inner' psp
    split
    · rename_i hsi
      simp only [run_bind, run_pure]
      simp only [Deep] at hD
      obtain ⟨inner, rfl, hloose, hEi, hDi⟩ := hD hsi
      obtain ⟨eo, h⟩ := ih inner' (by simp [kids]) inner s hw (hEi.er cx) hDi
      have hspan := (splitTarget_head sp inner' s).1
      generalize splitMemberTarget inner' sp s = R at h hspan ⊢
      obtain ⟨⟨t, o⟩, s'⟩ := R
      simp only at hspan
      exact ⟨eo, pairEr_paren (by rw [hspan]; exact hloose) h⟩
    · simp only [run_pure]
      exact ⟨_, pairEr_same s hw hE⟩
  · simp only [run_pure]
    exact ⟨_, pairEr_same s hw hE⟩

theorem assignRhs_Er {cx : Cx} {lo hi : Nat} {x' x : Node} (h : Er cx lo hi x' x) : Er cx lo hi (assignRhs x') x := by
  unfold assignRhs
  split
  · exact h.tightParen
  · exact h

theorem erase_assign_nt (σ : Env) (op : String) (l r : Node) (sp : Span) (h : tempTarget? l = none) :
    erase σ (.assign op l r sp) =
      (resugarAssign op (erase σ l).1 (erase (erase σ l).2 r).1 sp, (erase (erase σ l).2 r).2) := by
  simp only [erase, h]

/-- `to_dd_assign_expr`: `T = hook(O + R, …)` erases to `T += R` -/
theorem toDdAssign_Er (cfg : Config) (cx : Cx) (lo hi : Nat) (op : String) (left' r' left r : Node) (sp : Span) (s : St)
    (hw : HypW cx hi s) (hlo : lo ≤ s.counter) (hnt : tempTarget? left' = none)
    (hl : Er cx lo hi left' left) (hD : Deep lo hi left' left) (hr : Er cx lo hi r' r) :
    s.counter ≤ (toDdAssign cfg (.assign op left' r' sp) s).2.counter ∧
    ∀ e1, (toDdAssign cfg (.assign op left' r' sp) s).1 = some e1 →
      Er cx lo (toDdAssign cfg (.assign op left' r' sp) s).2.counter e1 (.assign "+=" left r sp) := by
  simp only [toDdAssign]
  split
  · simp only [run_pure]
    exact ⟨Nat.le_refl _, by intro e1 he; cases he⟩
  · simp only [run_bind]
    obtain ⟨eo, hP⟩ := splitMemberTarget_Er cx lo hi sp left' left s hw hl hD
    have hnt2 := (splitTarget_head sp left' s).2
    rw [hnt] at hnt2
    generalize splitMemberTarget left' sp s = R1 at hP hnt2 ⊢
    obtain ⟨⟨target, operand⟩, s1⟩ := R1
    obtain ⟨c1, P⟩ := hP
    dsimp only at c1 P hnt2 ⊢
    -- for every environment: the context in which the sum is rewritten
    have key : ∀ target'', BRg target target'' → ∀ σ, cx.ext σ → ∃ T Δt, erase σ target'' = (T, Δt ++ σ) ∧ ESim T left ∧
        WinU lo hi s.counter s1.counter Δt ∧
        let cx' : Cx := ⟨fun k => cx.bad k ∨ (s.counter ≤ k ∧ k < s1.counter), Δt ++ σ⟩
        HypW cx' hi s1 ∧ Er cx' lo hi operand eo ∧ Er cx' lo hi (assignRhs r') r := by
      intro target'' htg σ hσ
      obtain ⟨T, Δt, eT, sT, wT, RB⟩ := P target'' htg σ hσ
      refine ⟨T, Δt, eT, sT, wT, ?_, ?_, ?_⟩
      · refine ⟨?_, ?_, Nat.le_trans hw.h3 c1⟩
        · intro k hk
          rcases hk with hk | hk
          · exact hw.h1 k hk
          · exact Nat.le_trans hw.h3 hk.1
        · intro k hk
          rcases hk with hk | hk
          · exact Nat.lt_of_lt_of_le (hw.h2 k hk) c1
          · exact hk.2
      · intro operand'' hop σ' hσ'
        obtain ⟨Δ, rfl, hΔ⟩ := hσ'
        exact RB operand'' hop Δ (by intro p hp; have := hΔ p hp; simp only [not_or, not_and, Nat.not_lt] at this; omega)
          (by intro p hp hb; exact hΔ p hp (Or.inl hb))
      · intro r'' hr'' σ' hσ'
        obtain ⟨Δ, rfl, hΔ⟩ := hσ'
        refine assignRhs_Er hr r'' hr'' _ ?_
        exact Cx.ext_append (Cx.ext_append hσ (wT.avoidCx hw)) (by intro p hp hb; exact hΔ p hp (Or.inl hb))
    have hcnt : s1.counter ≤ (toDdBinary cfg (.bin "+" operand (assignRhs r') sp) s1).2.counter := by
      obtain ⟨T, Δt, _, _, _, hw', hEo, hEr⟩ := key target (BRg.refl _) cx.base cx.ext_base
      exact (toDdBinary_Er cfg _ lo hi "+" operand (assignRhs r') eo r sp s1 hw' (Nat.le_trans hlo c1) hEo hEr).1
    have hmain : ∀ e1, (toDdBinary cfg (.bin "+" operand (assignRhs r') sp) s1).1 = some e1 →
        Er cx lo (toDdBinary cfg (.bin "+" operand (assignRhs r') sp) s1).2.counter (.assign "=" target e1 sp)
          (.assign "+=" left r sp) := by
      intro e1 he m hbr σ hσ
      obtain ⟨target'', e1'', rfl, htg, he1⟩ := hbr.assign_inv
      obtain ⟨T, Δt, eT, sT, wT, hw', hEo, hEr⟩ := key target'' htg σ hσ
      have hB := (toDdBinary_Er cfg _ lo hi "+" operand (assignRhs r') eo r sp s1 hw' (Nat.le_trans hlo c1) hEo hEr).2 e1 he
      obtain ⟨Xb, Δb, eXb, sXb, wXb⟩ := hB e1'' he1 (Δt ++ σ) (Cx.ext_base _)
      -- the erased sum is a sum carrying the assignment's position
      have hshape : ∃ A B, Xb = .bin "+" A B sp ∧ strip B = strip r := by
        have h1 := sXb.1
        simp only [strip] at h1
        obtain ⟨A, B, bsp, rfl, -, hB2⟩ := strip_eq_bin h1
        have h2 := sXb.2.1
        simp only [spanRel, Node.span, isOptN] at h2
        rcases h2 with h2 | h2
        · subst h2; exact ⟨A, B, rfl, hB2⟩
        · exact absurd h2.1 (by simp)
      obtain ⟨A, B, rfl, hBr⟩ := hshape
      have hnt3 : tempTarget? target'' = none := by rw [htg.tempTarget]; exact hnt2
      refine ⟨.assign "+=" T B sp, Δb ++ Δt, ?_, ?_, ?_⟩
      · rw [erase_assign_nt _ _ _ _ _ hnt3, eT]
        simp only
        rw [eXb]
        simp [resugarAssign, List.append_assoc]
      · exact ⟨by simp only [strip, sT.1, hBr], Or.inl rfl, noSp_assign _ _ _ _⟩
      · exact wXb.append (winU_win (wT.mono (Nat.le_refl _) hcnt) hlo (Nat.le_trans hw.h3 (Nat.le_trans c1 hcnt)))
    generalize toDdBinary cfg (.bin "+" operand (assignRhs r') sp) s1 = R2 at hcnt hmain ⊢
    obtain ⟨res, s2⟩ := R2
    dsimp only at hcnt hmain ⊢
    cases res with
    | none => simp only [run_pure]; exact ⟨Nat.le_trans c1 hcnt, by intro e1 he; cases he⟩
    | some e' =>
      simp only [run_pure]
      refine ⟨Nat.le_trans c1 hcnt, ?_⟩
      intro e1 he
      simp only [Option.some.injEq] at he
      subst he
      exact hmain e' rfl

end IastModel
