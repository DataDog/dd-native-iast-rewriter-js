import IastModel.Lemmas.CovSites
/-
  The scope of the C04 theorems, made executable: `inScope cfg p d sp0` searches the block statements of
  the program (and the arrow functions reached from their statements) for one whose required count for
  the site `(d, sp0)` is positive — i.e. it decides the hypotheses of
  `every_block_statement_is_instrumented_partial` / `every_reached_arrow_body_is_instrumented_partial`.
  The driver evaluates it on every occurrence the coverage oracle demands, so each run reports how much
  of the oracle's demand is also covered by a theorem.
-/
namespace IastModel
open Node

def blocksOf (p : Node) : List Node := Node.collect isBlockNode p

theorem Node.mem_collect_count (p q : Node → Bool) : ∀ (n x : Node), x ∈ Node.collect p n → q x = true →
    1 ≤ Node.count (fun k => p k && q k) n := by
  apply Node.ind
  intro n ih x hx hq
  rw [Node.collect_eq] at hx
  rw [Node.count_eq]
  simp only [List.mem_append, List.mem_flatten, List.mem_map] at hx
  rcases hx with hx | ⟨l, ⟨k, hk, rfl⟩, hx⟩
  · by_cases hp : p n = true
    · simp only [hp, if_true, List.mem_singleton] at hx
      subst hx
      simp [hp, hq]
    · simp [hp] at hx
  · have h1 := ih k hk x hx hq
    have := le_sum_map_of_mem (Node.count fun k => p k && q k) hk
    omega

theorem isBAt_eq (B k : Node) : isBAt B k = (isBlockNode k && Node.beq k B) := by
  cases k <;> rfl

/-- a listed block statement occurs in the tree -/
theorem cb_of_mem_blocksOf (p B : Node) (h : B ∈ blocksOf p) : 1 ≤ cb B p := by
  have := Node.mem_collect_count isBlockNode (fun k => Node.beq k B) p B h (beq_self B)
  unfold cb
  have e : isBAt B = fun k => isBlockNode k && Node.beq k B := funext (isBAt_eq B)
  rw [e]; exact this

/-- the expression-bodied arrow functions at the positions the operation visitor reaches -/
def reachedArrows (cfg : Config) (n : Node) : List Node :=
  (if isExprArrow n then [n] else []) ++ ((visitedKids cfg n).attach.map fun x => reachedArrows cfg x.1).flatten
termination_by sizeOf n
decreasing_by exact Node.sizeOf_lt_of_mem_kids (visitedKids_sub cfg n x.1 x.2)

theorem reachedArrows_eq (cfg : Config) (n : Node) :
    reachedArrows cfg n = (if isExprArrow n then [n] else []) ++ ((visitedKids cfg n).map (reachedArrows cfg)).flatten := by
  rw [reachedArrows, Node.attach_map_eq]

theorem va_of_mem_reachedArrows (cfg : Config) : ∀ (n A : Node), A ∈ reachedArrows cfg n → 1 ≤ va cfg A n := by
  apply Node.ind
  intro n ih A hA
  rw [reachedArrows_eq] at hA
  rw [va_eq]
  simp only [List.mem_append, List.mem_flatten, List.mem_map] at hA
  rcases hA with hA | ⟨l, ⟨k, hk, rfl⟩, hA⟩
  · by_cases hp : isExprArrow n = true
    · simp only [hp, if_true, List.mem_singleton] at hA
      subst hA
      simp [hp, beq_self]
    · simp [hp] at hA
  · have h1 := ih k (visitedKids_sub cfg n k hk) A hA
    have : va cfg A k ≤ vaL cfg A (visitedKids cfg n) := le_sum_map_of_mem (va cfg A) hk
    omega

def reachedArrowsL (cfg : Config) (l : List Node) : List Node := (l.map (reachedArrows cfg)).flatten

theorem vaL_of_mem_reachedArrowsL (cfg : Config) (A : Node) : ∀ (l : List Node), A ∈ reachedArrowsL cfg l → 1 ≤ vaL cfg A l := by
  intro l
  induction l with
  | nil => intro h; simp [reachedArrowsL] at h
  | cons x xs ih =>
    intro h
    simp only [reachedArrowsL, List.map_cons, List.flatten_cons, List.mem_append] at h
    simp only [vaL_cons]
    rcases h with h | h
    · have := va_of_mem_reachedArrows cfg x A h; omega
    · have := ih h; omega

/-- does standing on the block `B` guarantee a hook for the site `(d, sp0)` — required by its own statements,
    or by the body of an arrow function reached from them, or from the body of that one, … (`fuel` bounds
    the length of the chain) -/
def viaScope (cfg : Config) (d : String) (sp0 : Span) : Nat → Node → Bool
  | 0, _ => false
  | fuel + 1, B =>
    decide (1 ≤ RL cfg d sp0 (stmtsOf B)) ||
    (reachedArrowsL cfg (stmtsOf B)).any fun A => viaScope cfg d sp0 fuel (pseudo A)

theorem viaScope_sound (cfg : Config) (d : String) (sp0 : Span) : ∀ (fuel : Nat) (B : Node),
    viaScope cfg d sp0 fuel B = true → ∃ c, 1 ≤ c ∧ EnteredVia cfg d sp0 B c := by
  intro fuel
  induction fuel with
  | zero => intro B h; simp [viaScope] at h
  | succ fuel ih =>
    intro B h
    simp only [viaScope, Bool.or_eq_true, decide_eq_true_eq, List.any_eq_true] at h
    rcases h with h | ⟨A, hA, h⟩
    · exact ⟨_, h, EnteredVia.self B⟩
    · obtain ⟨c, hc, hv⟩ := ih (pseudo A) h
      exact ⟨c, hc, EnteredVia.arrow B A c (vaL_of_mem_reachedArrowsL cfg A _ hA) hv⟩

/-- does some block statement of `p` guarantee a hook for the site `(d, sp0)`? -/
def inScope (cfg : Config) (p : Node) (d : String) (sp0 : Span) : Bool :=
  (blocksOf p).any fun B => viaScope cfg d sp0 (p.size + 1) B

end IastModel
