import IastModel.Lemmas.OpSpec
/-
  `+` and templates under the master invariant: the replacement is good and has exactly one more namespace reference
  than what it replaces (`TrSpec`; `TrSpec2` is the same for the call forms, which also return the telemetry tag).
-/
namespace IastModel
open Node

/-- what a transform guarantees about its replacement: good, exactly one more reference to the hook namespace than
    the expression it replaces (`n0`), status / telemetry untouched -/
def TrSpec (ok : String → Bool) (u : Bool) (n0 : Nat) (R : Option Node × St) (s : St) : Prop :=
  TS R.2 s ∧ ∀ e', R.1 = some e' → goodW ok u e' = true ∧ ns e' = n0 + 1

theorem toDdBinary_spec (ok u) (cfg : Config) (op : String) (l r : Node) (sp : Span) (s : St)
    (hl : goodW ok u l = true) (hr : goodW ok u r = true) (hok : ok cfg.plusName = true) :
    TrSpec ok u (ns l + ns r) (toDdBinary cfg (.bin op l r sp) s) s := by
  simp only [toDdBinary, run_bind]
  have h1 := replaceExpr_spec ok u l (getIdentMode r) [] [] sp .expr false s hl rfl rfl
  generalize replaceExpr l (getIdentMode r) [] [] sp .expr false s = R1 at h1
  obtain ⟨⟨l', asg1, args1⟩, s1⟩ := R1
  simp only at h1
  obtain ⟨g1, g2, g3, c1, c2, t1⟩ := h1
  have h2 := replaceExpr_spec ok u r (getIdentMode l') asg1 args1 sp .expr false s1 hr g2 g3
  generalize replaceExpr r (getIdentMode l') asg1 args1 sp .expr false s1 = R2 at h2
  obtain ⟨⟨r', asg2, args2⟩, s2⟩ := R2
  simp only at h2
  obtain ⟨k1, k2, k3, d1, d2, t2⟩ := h2
  simp only [nsL_nil, Nat.add_zero] at c1 c2
  by_cases hm : mustReplaceBinary args2 = true
  · simp only [hm, if_true, run_pure]
    refine ⟨TS.trans t2 t1, ?_⟩
    intro e' he
    simp only [Option.some.injEq] at he
    subst he
    refine ⟨by simp [good_ddParen, hok, g1, k1, k2, k3], ?_⟩
    rw [ns_ddParen]; simp only [ns_bin]; omega
  · simp only [hm, Bool.false_eq_true, if_false, run_pure]
    exact ⟨TS.trans t2 t1, by intro e' he; cases he⟩


/-- what a call transform guarantees about its replacement -/
def TrSpec2 (ok : String → Bool) (u : Bool) (n0 : Nat) (R : Option (Node × String) × St) (s : St) : Prop :=
  TS R.2 s ∧ ∀ e' tag, R.1 = some (e', tag) → goodW ok u e' = true ∧ ns e' = n0 + 1

theorem replaceTplExprs_spec (ok u) : ∀ (xs asg args : List Node) (s : St),
    OpSpecL ok u xs asg args (replaceTplExprs xs asg args s) s
  | [], asg, args, s => OpSpecL.nil ok u asg args s
  | x :: xs, asg, args, s =>
    OpSpecL.cons ok u
      ((replaceExpr_spec ok u (tplOperand x) .replace asg args x.span .expr false s).of_wrapped ok u
        (good_seqOperand ok u x) (ns_seqOperand x))
      (replaceTplExprs_spec ok u xs _ _ _)

theorem toDdTpl_spec (ok u) (cfg : Config) (exprs quasis : List Node) (sp : Span) (s : St)
    (he : goodL ok u exprs = true) (hq : goodL ok u quasis = true) (hok : ok cfg.tplName = true) :
    TrSpec ok u (nsL exprs + nsL quasis) (toDdTpl cfg (.tpl exprs quasis sp) s) s := by
  simp only [toDdTpl, run_bind, run_pure]
  have h1 := replaceTplExprs_spec ok u exprs [] [] s he rfl rfl
  generalize replaceTplExprs exprs [] [] s = R1 at h1
  obtain ⟨⟨exprs', asg, args⟩, s1⟩ := R1
  simp only at h1
  obtain ⟨g1, g2, g3, c1, c2, t1⟩ := h1
  simp only [nsL_nil, Nat.add_zero] at c1 c2
  refine ⟨t1, ?_⟩
  intro e' he'
  simp only [Option.some.injEq] at he'
  subst he'
  refine ⟨by simp [good_ddParen, hok, g1, g2, g3, hq], ?_⟩
  rw [ns_ddParen]; simp only [ns_tpl]; omega

end IastModel
