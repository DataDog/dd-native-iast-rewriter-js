import IastModel.Lemmas.ErVisitAux
namespace IastModel
open Node

/-- the context with nothing to stay away from, based at `σ` -/
def cx0 (σ : Env) : Cx := ⟨fun _ => False, σ⟩

theorem hypW0 (σ : Env) {hi : Nat} {s : St} (h : hi ≤ s.counter) : HypW (cx0 σ) hi s :=
  ⟨fun _ hk => hk.elim, fun _ hk => hk.elim, h⟩

theorem erAll_of_er {lo hi : Nat} {e' e : Node} (h : ∀ σ, Er (cx0 σ) lo hi e' e) : ErAll lo hi e' e :=
  fun e'' hb σ => h σ e'' hb σ (Cx.ext_base (cx0 σ))

theorem VC_of_dd {lo hi : Nat} {e1 n : Node} {sp : Span} (hE : ErAll lo hi e1 n) (hd : IsDdS e1 sp) (hsp : n.span = sp) :
    EVC lo hi e1 n := by
  obtain ⟨a, b, c⟩ := hd.shape lo hi n
  exact ⟨hE, Or.inl (by rw [hd.span, hsp]), a, b, c⟩

theorem KL_pair {lo hi : Nat} {a' b' a b : Node} (h : KL lo hi [a', b'] [a, b]) : EVC lo hi a' a ∧ EVC lo hi b' b := by
  simp only [KL, Forall2] at h; exact ⟨h.1, h.2.1⟩

/-- the `+` arm after the children have been visited -/
theorem bin_arm (cfg : Config) (op : String) (l r l' r' : Node) (sp : Span) (s s1 : St)
    (hs : srcOk (.bin op l r sp) = true) (c01 : s.counter ≤ s1.counter)
    (hkl : KL s.counter s1.counter [l', r'] [l, r]) :
    s1.counter ≤ (toDdBinary cfg (.bin op l' r' sp) s1).2.counter ∧
    EVC s.counter (toDdBinary cfg (.bin op l' r' sp) s1).2.counter
      ((toDdBinary cfg (.bin op l' r' sp) s1).1.getD (.bin op l' r' sp)) (.bin op l r sp) := by
  obtain ⟨hl, hr⟩ := KL_pair hkl
  have key := fun σ => toDdBinary_Er cfg (cx0 σ) s.counter s1.counter op l' r' l r sp s1 (hypW0 σ (Nat.le_refl _)) c01
    (hl.1.er _) (hr.1.er _)
  have hc := (key []).1
  refine ⟨hc, ?_⟩
  cases hres : (toDdBinary cfg (.bin op l' r' sp) s1).1 with
  | none =>
    simp only [Option.getD_none]
    have := gen_VC (.bin op l r sp) [l', r'] s.counter s1.counter hs rfl hkl
    exact this.mono (Nat.le_refl _) hc
  | some e1 =>
    simp only [Option.getD_some]
    exact VC_of_dd (erAll_of_er (fun σ => (key σ).2 e1 hres)) (toDdBinary_isDdS cfg op l' r' sp s1 e1 hres) rfl

theorem assign_arm (cfg : Config) (l r l' r' : Node) (sp : Span) (s s1 : St)
    (hs : srcOk (.assign "+=" l r sp) = true) (c01 : s.counter ≤ s1.counter)
    (hkl : KL s.counter s1.counter [l', r'] [l, r]) :
    s1.counter ≤ (toDdAssign cfg (.assign "+=" l' r' sp) s1).2.counter ∧
    EVC s.counter (toDdAssign cfg (.assign "+=" l' r' sp) s1).2.counter
      ((toDdAssign cfg (.assign "+=" l' r' sp) s1).1.getD (.assign "+=" l' r' sp)) (.assign "+=" l r sp) := by
  obtain ⟨hl, hr⟩ := KL_pair hkl
  have hnt := tempTarget_of_VC hl (srcOk_kids hs l (by simp [kids]))
  have key := fun σ => toDdAssign_Er cfg (cx0 σ) s.counter s1.counter "+=" l' r' l r sp s1 (hypW0 σ (Nat.le_refl _)) c01
    hnt (hl.1.er _) hl.2.2.1 (hr.1.er _)
  have hc := (key []).1
  refine ⟨hc, ?_⟩
  cases hres : (toDdAssign cfg (.assign "+=" l' r' sp) s1).1 with
  | none =>
    simp only [Option.getD_none]
    exact (assign_VC hs hl hr).mono (Nat.le_refl _) hc
  | some e1 =>
    simp only [Option.getD_some]
    obtain ⟨t, d, sp', he, _⟩ := toDdAssign_shape cfg _ s1 e1 hres
    have hE := erAll_of_er (fun σ => (key σ).2 e1 hres)
    -- the replacement is `target = hook(…)` at the assignment's position, with a target that is no temporary
    have hform : ∃ target e2, e1 = .assign "=" target e2 sp ∧ tempTarget? target = none := by
      simp only [toDdAssign] at hres
      split at hres
      · simp [run_pure] at hres
      · simp only [run_bind] at hres
        have hts := (splitTarget_head sp l' s1).2
        generalize splitMemberTarget l' sp s1 = R1 at hres hts
        obtain ⟨⟨target, operand⟩, s2⟩ := R1
        simp only at hres hts
        generalize toDdBinary cfg (.bin "+" operand (assignRhs r') sp) s2 = R2 at hres
        obtain ⟨res, s3⟩ := R2
        cases res with
        | none => simp [run_pure] at hres
        | some e2 =>
          simp only [run_pure, Option.some.injEq] at hres
          exact ⟨target, e2, hres.symm, by rw [hts]; exact hnt⟩
    obtain ⟨target, e2, rfl, htt⟩ := hform
    refine ⟨hE, Or.inl rfl, by simp [Deep], ?_, by simp [Node.isIdent]⟩
    unfold isTempAssign
    split
    · rename_i k isp rr spp heq
      simp only [assign.injEq] at heq
      obtain ⟨_, rfl, _, _⟩ := heq
      simp [tempTarget?] at htt
    · rfl

theorem tpl_VC {lo hi : Nat} {es' es qs : List Node} {sp : Span} (h : KL lo hi es' es) (hq : noBlkL qs = true) :
    EVC lo hi (.tpl es' qs sp) (.tpl es qs sp) := by
  refine ⟨?_, Or.inl rfl, by simp [Deep], rfl, by simp [Node.isIdent]⟩
  intro m hb σ
  obtain ⟨es'', qs'', rfl, hes, hqs⟩ := hb.tpl_inv
  rw [BRgL_noBlk hq hqs]
  obtain ⟨Xs, Δ, eX, sX, wX⟩ := eraseL_KL h es'' hes σ
  refine ⟨.tpl Xs qs sp, Δ, by rw [erase_tpl, eX], ?_, wX⟩
  exact ⟨by simp only [strip, Forall2_Sim_strip sX], Or.inl rfl, noSp_tpl _ _ _⟩

theorem KL_forall2_er {lo hi : Nat} (cx : Cx) {ks' ks : List Node} (h : KL lo hi ks' ks) : Forall2 (Er cx lo hi) ks' ks :=
  forall2_imp (fun _ _ hab => hab.1.er cx) h

theorem tpl_arm (cfg : Config) (es es' qs : List Node) (sp : Span) (s s1 : St)
    (c01 : s.counter ≤ s1.counter) (hkl : KL s.counter s1.counter es' es) (hq : noBlkL qs = true) :
    s1.counter ≤ (toDdTpl cfg (.tpl es' qs sp) s1).2.counter ∧
    EVC s.counter (toDdTpl cfg (.tpl es' qs sp) s1).2.counter
      ((toDdTpl cfg (.tpl es' qs sp) s1).1.getD (.tpl es' qs sp)) (.tpl es qs sp) := by
  have key := fun σ => toDdTpl_Er cfg (cx0 σ) s.counter s1.counter es' es qs sp s1 (hypW0 σ (Nat.le_refl _)) c01
    (KL_forall2_er _ hkl) hq
  have hc := (key []).1
  refine ⟨hc, ?_⟩
  cases hres : (toDdTpl cfg (.tpl es' qs sp) s1).1 with
  | none =>
    simp only [Option.getD_none]
    exact (tpl_VC hkl hq).mono (Nat.le_refl _) hc
  | some e1 =>
    simp only [Option.getD_some]
    exact VC_of_dd (erAll_of_er (fun σ => (key σ).2 e1 hres)) (toDdTpl_isDdS cfg es' qs sp s1 e1 hres) rfl

theorem KL_srcOk_deepEr {lo hi : Nat} (cx : Cx) {ks' ks : List Node} (h : KL lo hi ks' ks) :
    (∀ k ∈ ks, srcOk k = true) → Forall2 (fun a' a => Er cx lo hi a' a ∧ DeepEr cx lo hi a' a) ks' ks :=
  Forall2.ind (P := fun ks' ks => (∀ k ∈ ks, srcOk k = true) →
      Forall2 (fun a' a => Er cx lo hi a' a ∧ DeepEr cx lo hi a' a) ks' ks) (fun _ => trivial)
    (fun _ y _ _ hab _ ih hs =>
      ⟨⟨hab.1.er cx, DeepEr_of_VC cx hab (hs y (by simp))⟩, ih (fun k hk => hs k (by simp [hk]))⟩) h

theorem call_arm (cfg : Config) (c c' : Node) (as as' : List Node) (sp : Span) (s s1 : St)
    (hs : srcOk (.call c as sp) = true) (c01 : s.counter ≤ s1.counter)
    (hc : EVC s.counter s1.counter c' c) (ha : KL s.counter s1.counter as' as)
    (hAA : Forall2 (fun a' a => ∃ sA e' e, a' = Node.arg sA e' ∧ a = Node.arg sA e) as' as) :
    s1.counter ≤ (toDdCall cfg (.call c' as' sp) s1).2.counter ∧
    ∀ e1 tag, (toDdCall cfg (.call c' as' sp) s1).1 = some (e1, tag) →
      EVC s.counter (toDdCall cfg (.call c' as' sp) s1).2.counter e1 (.call c as sp) := by
  have hsk := srcOk_kids hs
  have hclash : callThisClash (.call c as sp) = false := by
    have := srcOk_self hs
    simp only [srcNode, Bool.and_eq_true, Bool.not_eq_true'] at this
    exact this.1
  have key := fun σ => toDdCall_Er cfg (cx0 σ) s.counter s1.counter c' c as' as sp s1 (hypW0 σ (Nat.le_refl _)) c01
    (hc.1.er _) hc.2.2.1 (hsk c (by simp [kids])) (KL_srcOk_deepEr _ ha (fun k hk => hsk k (by simp [kids, hk]))) hAA hclash
  refine ⟨(key []).1, ?_⟩
  intro e1 tag hres
  exact VC_of_dd (erAll_of_er (fun σ => (key σ).2 e1 tag hres)) (toDdCall_isDdS cfg c' as' sp s1 e1 tag hres) rfl

end IastModel
