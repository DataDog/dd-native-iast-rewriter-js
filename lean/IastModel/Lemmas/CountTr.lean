import IastModel.Lemmas.CountOp
import IastModel.Lemmas.CallCases
/-
  The transforms (`+`, template, call; `+=` is in `CountAssign`) under an arbitrary counter: a
  replacement weighs what it replaces, plus its hook, plus the copies handed to the hook.
-/
namespace IastModel
open Node

/-- the hook call a transform result ends in: `ddParen` is the call itself or `(asg…, call)`, and `+=`
    assigns that to its target -/
def lastOf (n : Node) : Node :=
  match n with
  | .paren (.seq xs _) _ => xs.getLast?.getD n
  | _ => n

def siteOf (n : Node) : Node :=
  match n with
  | .assign _ _ r _ => lastOf r
  | _ => lastOf n

@[simp] theorem lastOf_ddParen (e : Node) (args asg : List Node) (m : String) (sp : Span) :
    lastOf (ddParen e args asg m sp) = ddCall e args m sp := by
  unfold ddParen
  split
  · rfl
  · simp [lastOf]

@[simp] theorem siteOf_ddParen (e : Node) (args asg : List Node) (m : String) (sp : Span) :
    siteOf (ddParen e args asg m sp) = ddCall e args m sp := by
  unfold ddParen
  split
  · rfl
  · simp [siteOf, lastOf]

@[simp] theorem siteOf_assign (op : String) (t r : Node) (sp : Span) : siteOf (.assign op t r sp) = lastOf r := rfl

/-- what a hook call site adds: the call itself and the namespace reference in its callee -/
def hookW (p : Node → Bool) (site : Node) : Nat :=
  (if p site then 1 else 0) + count p (.ident (.user Generated.ddGlobalNamespace) site.span)

theorem hookName?_ddCall (e : Node) (args : List Node) (m : String) (sp : Span) :
    hookName? (ddCall e args m sp) = some m := by
  simp [hookName?, ddCall, ddCallee]

theorem hookW_of_ident {p : Node → Bool} (hi : ∀ n sp, p (.ident n sp) = false) (site : Node) :
    hookW p site = if p site then 1 else 0 := by
  rw [hookW, count_ident, hi]; rfl

/-- a replacement weighs what it replaces (`w`), its hook, and the copies of operands handed to the hook. An operand
    is copied at most once into the hook's arguments, and the receiver of a method call is read twice more (once as
    `this`, once as hook argument), hence `κ ≤ 2 * w`. -/
def TrC (p : Node → Bool) (hook w out : Nat) : Prop :=
  ∃ κ, out = hook + w + κ ∧ κ ≤ 2 * w ∧ (CopyBlind p → κ = 0)

theorem TrC.mono {p : Node → Bool} {hook w w' out : Nat} (h : TrC p hook w out) (e : w = w') : TrC p hook w' out := e ▸ h

theorem TrC.eq {p : Node → Bool} {hook w out : Nat} (h : TrC p hook w out) (hc : CopyBlind p) : out = hook + w := by
  obtain ⟨κ, h1, _, h3⟩ := h
  rw [h1, h3 hc]; rfl

theorem TrC.lz {p : Node → Bool} {w out : Nat} (h : TrC p 0 w out) : LZ w out := by
  obtain ⟨κ, h1, h2, _⟩ := h
  exact LZ.of_copies (by omega) h2

section
variable {p : Node → Bool} (hp : Scaf p)
include hp

theorem c_ddParen_site (x : Node) (args asg : List Node) (m : String) (sp : Span) :
    count p (ddParen x args asg m sp) =
      hookW p (ddCall x args m sp) + (count p x + countL p asg) + countL p args := by
  rw [hp.c_ddParen, hp.c_ddCall, hookW]
  show _ = (_ + count p (.ident (.user Generated.ddGlobalNamespace) sp)) + _ + _
  omega

theorem OpC.copies {e asg args R} (h : OpC p e asg args R) :
    ∃ κ, countL p R.1.2.2 = countL p args + κ ∧ κ ≤ count p e ∧ (CopyBlind p → κ = 0) := by
  obtain ⟨_, pushed, h2, h3, h4⟩ := h
  exact ⟨countL p pushed, by rw [h2, countL_append], h4, fun hc => countL_pushes hp hc h3⟩

theorem OpCL.copies {xs asg args R} (h : OpCL p xs asg args R) :
    ∃ κ, countL p R.1.2.2 = countL p args + κ ∧ κ ≤ countL p xs ∧ (CopyBlind p → κ = 0) := by
  obtain ⟨_, pushed, h2, h3, h4⟩ := h
  exact ⟨countL p pushed, by rw [h2, countL_append], h4, fun hc => countL_pushes hp hc h3⟩

theorem toDdBinary_cnt (cfg : Config) (op : String) (l r : Node) (sp : Span) (s : St) :
    ∀ e', (toDdBinary cfg (.bin op l r sp) s).1 = some e' → hookName? (lastOf e') = some cfg.plusName ∧
      TrC p (hookW p (lastOf e')) (count p l + count p r) (count p e') := by
  simp only [toDdBinary, run_bind]
  have h1 := replaceExpr_cnt hp l (getIdentMode r) [] [] sp .expr false s
  generalize replaceExpr l (getIdentMode r) [] [] sp .expr false s = R1 at h1
  obtain ⟨⟨l', asg1, args1⟩, s1⟩ := R1
  have h2 := replaceExpr_cnt hp r (getIdentMode l') asg1 args1 sp .expr false s1
  generalize replaceExpr r (getIdentMode l') asg1 args1 sp .expr false s1 = R2 at h2
  obtain ⟨⟨r', asg2, args2⟩, s2⟩ := R2
  obtain ⟨κ1, a1, b1, c1⟩ := OpC.copies hp h1
  obtain ⟨κ2, a2, b2, c2⟩ := OpC.copies hp h2
  have m1 := h1.1
  have m2 := h2.1
  simp only [countL_nil] at a1 a2 m1 m2
  dsimp only
  split
  · intro e' he
    cases he
    rw [lastOf_ddParen, c_ddParen_site hp, hp.c_bin]
    exact ⟨hookName?_ddCall .., κ1 + κ2, by omega, by omega, fun hc => by rw [c1 hc, c2 hc]⟩
  · intro e' he; cases he

theorem toDdTpl_cnt (cfg : Config) (exprs quasis : List Node) (sp : Span) (s : St) :
    ∀ e', (toDdTpl cfg (.tpl exprs quasis sp) s).1 = some e' → hookName? (lastOf e') = some cfg.tplName ∧
      TrC p (hookW p (lastOf e')) (count p (.tpl exprs quasis sp)) (count p e') := by
  simp only [toDdTpl, run_bind, run_pure]
  have h1 := replaceTplExprs_cnt hp exprs [] [] s
  generalize replaceTplExprs exprs [] [] s = R1 at h1
  obtain ⟨⟨exprs', asg, args⟩, s1⟩ := R1
  obtain ⟨κ, a1, b1, c1⟩ := OpCL.copies hp h1
  have m1 := h1.1
  simp only [countL_nil] at a1 m1
  intro e' he
  cases he
  dsimp only
  rw [lastOf_ddParen, c_ddParen_site hp, count_tpl, count_tpl, hp.tpl exprs' quasis exprs quasis sp]
  exact ⟨hookName?_ddCall .., κ, by omega, by omega, c1⟩

/-- what the result of a call transform satisfies: the telemetry tag is a configured method, the hook carries that
    method's replacement name, and the replacement weighs `w` plus its hook and the copies handed to it -/
def CallC (p : Node → Bool) (cfg : Config) (w : Nat) (R : Option (Node × String) × St) : Prop :=
  ∀ e' tag, R.1 = some (e', tag) →
    (∃ csi, cfg.get tag = some csi ∧ hookName? (lastOf e') = some csi.dst) ∧ TrC p (hookW p (lastOf e')) w (count p e')

theorem replaceCallCalleeAndArgs_cnt (callee : Node) (cargs : List Node) (csp : Span) (identCallee : Option Node)
    (asg args : List Node) (coa : Option String) (s : St) :
    let R := replaceCallCalleeAndArgs callee cargs csp identCallee asg args coa s
    ∃ cargs', R.1.1 = .call (match identCallee with
        | some i => Node.member i (.pname (coa.getD Generated.callMethodName) csp) csp
        | none => callee) cargs' csp ∧
      OpCL p cargs asg args ((cargs', R.1.2.1, R.1.2.2), R.2) := by
  simp only [replaceCallCalleeAndArgs, run_bind, run_pure]
  exact ⟨_, rfl, replaceArgs_cnt hp .replace csp _ cargs asg args s⟩

omit hp in
theorem hookName?_temp_member (n : Nat) (q : Node) (msp : Span) (as : List Node) (sp : Span) :
    hookName? (.call (.member (tempIdent n) q msp) as sp) = none := rfl

/-- the part of `replaceCallWithMember` after the receiver has been given its temporary: the receiver
    (`identReplacement`, a temporary or a literal) is read twice more -/
theorem rcwmTail_cnt (dst method : String) (identReplacement memberExpr expr callee : Node) (cargs asg0 : List Node)
    (csp : Span) (coa : Option String) (s0 : St) (lme : memberExpr.isLit = false)
    {u : Nat} (hu : ∀ {c as sp}, hookName? (.call c as sp) = none → (if p (.call c as sp) then 1 else 0) = u) :
    ∀ e' tag, (rcwmTail dst method identReplacement memberExpr expr callee cargs asg0 csp coa s0).1 = some (e', tag) →
      tag = method ∧ hookName? (lastOf e') = some dst ∧ ∃ κ, count p e' = hookW p (lastOf e') + u +
        (countL p asg0 + countL p cargs + count p memberExpr) + 2 * count p identReplacement + κ ∧
        κ ≤ countL p cargs ∧ (CopyBlind p → κ = 0) := by
  unfold rcwmTail
  simp only [run_bind, run_pure]
  rcases getIdentUsed_cases memberExpr asg0 [] csp .expr s0 with ⟨hl, _⟩ | ⟨_, n1, s1, h1, _⟩
  · rw [lme] at hl; cases hl
  · rw [h1]
    simp only
    have hcs := replaceCallCalleeAndArgs_cnt hp callee cargs csp (some (tempIdent n1))
      (asg0 ++ [.assign "=" (tempIdent n1) (assignRight memberExpr .expr) csp])
      ([] ++ [exprOrSpread (tempIdent n1) .expr] ++ [.arg none identReplacement]) coa s1
    generalize replaceCallCalleeAndArgs callee cargs csp (some (tempIdent n1))
      (asg0 ++ [.assign "=" (tempIdent n1) (assignRight memberExpr .expr) csp])
      ([] ++ [exprOrSpread (tempIdent n1) .expr] ++ [.arg none identReplacement]) coa s1 = R at hcs
    obtain ⟨⟨callRepl, asg3, args3⟩, s3⟩ := R
    obtain ⟨cargs', hcr, hc⟩ := hcs
    simp only at hcr hc
    subst hcr
    obtain ⟨κ, a1, b1, c1⟩ := OpCL.copies hp hc
    have m1 := hc.1
    intro e' tag hres
    simp only [Option.some.injEq, Prod.mk.injEq] at hres
    obtain ⟨hres, htag⟩ := hres
    subst hres
    refine ⟨htag.symm, by rw [lastOf_ddParen]; exact hookName?_ddCall .., κ, ?_, b1, c1⟩
    rw [lastOf_ddParen, c_ddParen_site hp]
    simp only [insertThis]
    rw [count_call, hu (hookName?_temp_member n1 _ csp _ csp)]
    simp only [countL_append, countL_cons, countL_nil, tempIdent, hp.c_tempAssign, hp.c_exprOrSpread, hp.c_arg,
      hp.c_temp, hp.c_assignRight, hp.c_member, hp.c_pname] at a1 m1 ⊢
    omega

theorem replaceCallWithMember_cnt (cfg : Config) (expr : Node) (method : String) (msp : Span)
    (callee : Node) (cargs : List Node) (csp : Span) (memberOpt : Option Node) (coa : Option String) (s : St)
    (hm : ∀ m, memberOpt = some m → m.isLit = false)
    {u : Nat} (hu : ∀ {c as sp}, hookName? (.call c as sp) = none → (if p (.call c as sp) then 1 else 0) = u) :
    CallC p cfg (u + (count p expr + countL p cargs + (memberOpt.map (count p)).getD 0))
      (replaceCallWithMember cfg expr method msp callee cargs csp memberOpt coa s) := by
  cases hg : cfg.get method with
  | none =>
    unfold replaceCallWithMember
    simp only [hg]
    intro e' tag h; cases h
  | some csi =>
    rw [replaceCallWithMember_unfold _ _ _ _ _ _ _ _ _ _ csi hg]
    -- the receiver: a literal stays and is read again where it stood; anything else is moved to a temporary
    have hR0 : ∃ ir asg0 s0, getTemporalIdent expr [] csp .expr s = ((ir, asg0), s0) ∧
        count p (identOr ir expr) + countL p asg0 = count p expr ∧ (CopyBlind p → count p (identOr ir expr) = 0) := by
      rcases getTemporalIdent_cases expr [] csp .expr s with ⟨hl, h⟩ | ⟨hl, n, s', h, _⟩
      · exact ⟨none, [], s, h, rfl, fun hc => hc.of_isLit hl⟩
      · refine ⟨some n, _, s', h, ?_, fun _ => hp.c_tempIdent n⟩
        simp only [identOr, List.nil_append, countL_cons, countL_nil, tempIdent, hp.c_tempAssign, hp.c_assignRight,
          hp.c_temp]
        omega
    obtain ⟨ir, asg0, s0, h0, na0, nir⟩ := hR0
    rw [h0]
    simp only
    have gme : (memberOr memberOpt (.member (identOr ir expr) (.pname method msp) csp)).isLit = false ∧
        count p (memberOr memberOpt (.member (identOr ir expr) (.pname method msp) csp)) =
          (memberOpt.map (count p)).getD (count p (identOr ir expr)) := by
      cases memberOpt with
      | none => exact ⟨rfl, by simp only [memberOr, hp.c_member, hp.c_pname, Option.map_none, Option.getD_none]; omega⟩
      | some m => exact ⟨hm m rfl, rfl⟩
    intro e' tag hres
    obtain ⟨htag, hnm, κ, ht, hk, hk0⟩ := rcwmTail_cnt hp csi.dst method (identOr ir expr) _ expr callee cargs asg0 csp coa s0 gme.1 hu e' tag hres
    rw [gme.2] at ht
    refine ⟨⟨csi, by rw [htag]; exact hg, hnm⟩, ?_⟩
    cases memberOpt with
    | none =>
      simp only [Option.map_none, Option.getD_none] at ht ⊢
      exact ⟨2 * count p (identOr ir expr) + κ, by omega, by omega, fun hc => by rw [nir hc, hk0 hc]⟩
    | some m =>
      simp only [Option.map_some, Option.getD_some] at ht ⊢
      exact ⟨count p (identOr ir expr) + κ, by omega, by omega, fun hc => by rw [nir hc, hk0 hc]⟩

theorem replaceCallSpreadWithMember_cnt (cfg : Config) (method : String)
    (callee : Node) (cargs : List Node) (csp : Span) (memberExpr : Node) (coa : String) (s : St)
    {u : Nat} (hu : ∀ {c as sp}, hookName? (.call c as sp) = none → (if p (.call c as sp) then 1 else 0) = u) :
    CallC p cfg (u + (countL p cargs + count p memberExpr))
      (replaceCallSpreadWithMember cfg method callee cargs csp memberExpr coa s) := by
  unfold replaceCallSpreadWithMember
  cases hg : cfg.get method with
  | none => intro e' tag h; cases h
  | some csi =>
    simp only [run_bind]
    rcases getIdentUsed_cases memberExpr [] [] csp .expr s with ⟨hl, h1⟩ | ⟨_, n1, s1, h1, _⟩
    · rw [h1]; intro e' tag h; cases h
    · rw [h1]
      simp only [run_bind, run_pure]
      have hcs := replaceCallCalleeAndArgs_cnt hp callee cargs csp (some (tempIdent n1))
        ([] ++ [.assign "=" (tempIdent n1) (assignRight memberExpr .expr) csp])
        ([] ++ [exprOrSpread (tempIdent n1) .expr]) (some coa) s1
      generalize replaceCallCalleeAndArgs callee cargs csp (some (tempIdent n1))
        ([] ++ [.assign "=" (tempIdent n1) (assignRight memberExpr .expr) csp])
        ([] ++ [exprOrSpread (tempIdent n1) .expr]) (some coa) s1 = R at hcs
      obtain ⟨⟨callRepl, asg3, args3⟩, s3⟩ := R
      obtain ⟨cargs', hcr, hc⟩ := hcs
      simp only at hcr hc
      subst hcr
      obtain ⟨κ, a1, b1, c1⟩ := OpCL.copies hp hc
      have m1 := hc.1
      intro e' tag hres
      simp only [Option.some.injEq, Prod.mk.injEq] at hres
      obtain ⟨hres, htag⟩ := hres
      subst hres
      refine ⟨⟨csi, by rw [← htag]; exact hg, by rw [lastOf_ddParen]; exact hookName?_ddCall ..⟩, κ, ?_, by omega, c1⟩
      rw [lastOf_ddParen, c_ddParen_site hp, count_call, hu (hookName?_temp_member n1 _ csp _ csp)]
      simp only [countL_append, countL_cons, countL_nil, tempIdent, hp.c_tempAssign, hp.c_exprOrSpread,
        hp.c_temp, hp.c_assignRight, hp.c_member, hp.c_pname] at a1 m1 ⊢
      omega

theorem replaceCallWithoutCallee_cnt (cfg : Config) (name : Name) (isp : Span) (cargs : List Node) (csp : Span) (s : St) :
    CallC p cfg (count p (.call (.ident name isp) cargs csp))
      (replaceCallWithoutCallee cfg name isp (.ident name isp) cargs csp s) := by
  unfold replaceCallWithoutCallee
  cases name with
  | temp k => intro e' tag h; cases h
  | user method =>
    simp only
    cases hg : cfg.get method with
    | none => intro e' tag h; cases h
    | some csi =>
      simp only
      split
      · simp only [run_bind, run_pure]
        have hcs := replaceCallCalleeAndArgs_cnt hp (.ident (.user method) isp) cargs csp none []
          [Node.arg none (.ident (.user method) isp), .arg none (.ident (.user "undefined") csp)] none s
        generalize replaceCallCalleeAndArgs (.ident (.user method) isp) cargs csp none []
          [Node.arg none (.ident (.user method) isp), .arg none (.ident (.user "undefined") csp)] none s = R at hcs
        obtain ⟨⟨callRepl, asg3, args3⟩, s3⟩ := R
        obtain ⟨cargs', hcr, hc⟩ := hcs
        simp only at hcr hc
        subst hcr
        obtain ⟨κ, a1, b1, c1⟩ := OpCL.copies hp hc
        have m1 := hc.1
        intro e' tag hres
        simp only [Option.some.injEq, Prod.mk.injEq] at hres
        obtain ⟨hres, htag⟩ := hres
        subst hres
        refine ⟨⟨csi, by rw [← htag]; exact hg, by rw [lastOf_ddParen]; exact hookName?_ddCall ..⟩,
          count p (.ident (.user method) isp) + κ, ?_, ?_,
          fun hc' => by rw [c1 hc', count_ident, hc'.ident]; rfl⟩
        · rw [lastOf_ddParen, c_ddParen_site hp, count_call, count_call,
            hp.call (c := .ident (.user method) isp) (as := cargs') (sp := csp) (c' := .ident (.user method) isp)
              (as' := cargs) (sp' := csp) rfl rfl]
          simp only [countL_cons, countL_nil, hp.c_arg, hp.c_undefined] at a1 m1 ⊢
          omega
        · rw [count_call]; omega
      · intro e' tag h; cases h

theorem c_argExpr (a : Node) : count p (argExpr a) = count p a := by
  cases a <;> first | rfl | exact (hp.c_arg _ _).symm

theorem replacePrototypeCallOrApply_cnt (cfg : Config) (cargs : List Node) (csp : Span) (callee member : Node)
    (coa : String) (s : St)
    {u : Nat} (hu : ∀ {c as sp}, hookName? (.call c as sp) = none → (if p (.call c as sp) then 1 else 0) = u) :
    CallC p cfg (u + (count p member + countL p cargs))
      (replacePrototypeCallOrApply cfg cargs csp callee member coa s) := by
  refine replacePrototype_cases (P := fun m => CallC p cfg _ (m s)) cfg cargs csp callee member coa
    (fun e' tag h => nomatch h) ?_ ?_
  · intro method msp this rest _ hc _ e' tag hres
    obtain ⟨hcs, hn⟩ := replaceCallSpreadWithMember_cnt hp cfg method callee cargs csp member coa s hu e' tag hres
    exact ⟨hcs, hn.mono (by omega)⟩
  · intro method msp this rest hpm hc _ e' tag hres
    subst hc
    obtain ⟨hcs, hn⟩ := replaceCallWithMember_cnt hp cfg (argExpr this) method msp
      (Node.member (argExpr this) (.pname method msp) csp) rest csp (some member) (some coa) s
      (by
        intro m hm; cases hm
        unfold prototypeMethodIdent at hpm
        split at hpm
        · rename_i hsp; cases member <;> first | rfl | simp [isStaticPath] at hsp
        · cases hpm)
      hu e' tag hres
    refine ⟨hcs, ?_⟩
    simp only [Option.map_some, Option.getD_some, c_argExpr hp] at hn
    exact hn.mono (by simp only [countL_cons]; omega)

/-- `toDdCall`, for a counter that gives every call other than a hook call the weight `u` -/
theorem toDdCall_cntU (cfg : Config) (callee : Node) (cargs : List Node) (csp : Span) (s : St)
    {u : Nat} (hu : ∀ {c as sp}, hookName? (.call c as sp) = none → (if p (.call c as sp) then 1 else 0) = u) :
    CallC p cfg (u + (count p callee + countL p cargs)) (toDdCall cfg (.call callee cargs csp) s) := by
  refine toDdCall_cases (P := fun m => CallC p cfg _ (m s)) cfg callee cargs csp
    (fun e' tag h => nomatch h) ?_ ?_ ?_
  · rintro obj m msp cs rfl
    have key := replaceCallWithMember_cnt hp cfg obj m msp (.member obj (.pname m msp) cs) cargs csp none none s
      (by intro m hm; cases hm) hu
    simpa only [Option.map_none, Option.getD_none, Nat.add_zero, hp.c_member, hp.c_pname] using key
  · rintro o q sp m msp cs rfl _
    have key := replacePrototypeCallOrApply_cnt hp cfg cargs csp (.member (.member o q sp) (.pname m msp) cs) (.member o q sp) m s hu
    simpa only [hp.c_member (.member o q sp), hp.c_pname, Nat.add_zero] using key
  · rintro name isp rfl
    have h := replaceCallWithoutCallee_cnt hp cfg name isp cargs csp s
    rwa [count_call, hu (c := .ident name isp) rfl] at h

theorem toDdCall_cnt (cfg : Config) (callee : Node) (cargs : List Node) (csp : Span) (s : St)
    (hn : hookName? (.call callee cargs csp) = none) :
    CallC p cfg (count p (.call callee cargs csp)) (toDdCall cfg (.call callee cargs csp) s) := by
  rw [count_call]
  exact toDdCall_cntU hp cfg callee cargs csp s fun h => by rw [hp.call h hn]

end
end IastModel
