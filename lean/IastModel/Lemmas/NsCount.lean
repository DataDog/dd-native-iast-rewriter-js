import IastModel.Lemmas.Shapes
import IastModel.Lemmas.CountBasic
import IastModel.Spec.Hooks
/-
  `ns`: the number of references to the hook namespace `_ddiast` in a tree (`Node.count mentionsNs`), with its
  equations; `TS s' s` (telemetry and status of `s'` are those of `s`; the out-of-fuel flag only goes up); and the two
  case lemmas every transform proof starts from: `getTemporalIdent_cases`, `getIdentUsed_cases` (a literal stays, anything
  else is hoisted into `t_n = operand`).
-/
namespace IastModel
open Node

/-- number of references to the hook namespace identifier in a tree -/
def ns (n : Node) : Nat := Node.count mentionsNs n
def nsL (l : List Node) : Nat := (l.map ns).sum

theorem ns_eq (n : Node) : ns n = (if mentionsNs n then 1 else 0) + nsL n.kids := count_eq' mentionsNs n

@[simp] theorem nsL_nil : nsL [] = 0 := rfl
@[simp] theorem nsL_cons (x : Node) (xs : List Node) : nsL (x :: xs) = ns x + nsL xs := countL_cons mentionsNs x xs
@[simp] theorem nsL_append (xs ys : List Node) : nsL (xs ++ ys) = nsL xs + nsL ys := countL_append mentionsNs xs ys

theorem mentionsNs_withKids (n : Node) (ks : List Node) : mentionsNs (n.withKids ks) = mentionsNs n := by
  cases n <;> rfl

theorem ns_withKids (n : Node) (ks : List Node) (h : ks.length = n.kids.length) :
    ns (n.withKids ks) = (if mentionsNs n then 1 else 0) + nsL ks := by
  rw [ns_eq, mentionsNs_withKids, Node.kids_withKids n ks h]

-- constructor forms: `count_*` at a predicate that is false on everything but the namespace identifier
@[simp] theorem ns_lit (k v r : String) (sp : Span) : ns (.lit k v r sp) = 0 := count_lit mentionsNs k v r sp
@[simp] theorem ns_pname (n : String) (sp : Span) : ns (.pname n sp) = 0 := count_pname mentionsNs n sp
@[simp] theorem ns_temp (n : Nat) (sp : Span) : ns (.ident (.temp n) sp) = 0 := count_ident mentionsNs _ sp
@[simp] theorem ns_atom (s : String) : ns (.atom s) = 0 := count_atom mentionsNs s
theorem ns_user (x : String) (sp : Span) : ns (.ident (.user x) sp) = if x == Generated.ddGlobalNamespace then 1 else 0 :=
  count_ident mentionsNs _ sp
@[simp] theorem ns_bin (op : String) (l r : Node) (sp : Span) : ns (.bin op l r sp) = ns l + ns r := (count_bin mentionsNs op l r sp).trans (Nat.zero_add _)
@[simp] theorem ns_assign (op : String) (l r : Node) (sp : Span) : ns (.assign op l r sp) = ns l + ns r := (count_assign mentionsNs op l r sp).trans (Nat.zero_add _)
@[simp] theorem ns_member (o p : Node) (sp : Span) : ns (.member o p sp) = ns o + ns p := (count_member mentionsNs o p sp).trans (Nat.zero_add _)
@[simp] theorem ns_call (c : Node) (as : List Node) (sp : Span) : ns (.call c as sp) = ns c + nsL as := (count_call mentionsNs c as sp).trans (Nat.zero_add _)
@[simp] theorem ns_arg (s : Option Span) (e : Node) : ns (.arg s e) = ns e := (count_arg mentionsNs s e).trans (Nat.zero_add _)
@[simp] theorem ns_paren (e : Node) (sp : Span) : ns (.paren e sp) = ns e := (count_paren mentionsNs e sp).trans (Nat.zero_add _)
@[simp] theorem ns_seq (es : List Node) (sp : Span) : ns (.seq es sp) = nsL es := (count_seq mentionsNs es sp).trans (Nat.zero_add _)
@[simp] theorem ns_array (es : List Node) (sp : Span) : ns (.array es sp) = nsL es := (count_array mentionsNs es sp).trans (Nat.zero_add _)
@[simp] theorem ns_tpl (es qs : List Node) (sp : Span) : ns (.tpl es qs sp) = nsL es + nsL qs := (count_tpl mentionsNs es qs sp).trans (Nat.zero_add _)
@[simp] theorem ns_cond (t c a : Node) (sp : Span) : ns (.cond t c a sp) = ns t + ns c + ns a := (count_cond mentionsNs t c a sp).trans (Nat.zero_add _)
@[simp] theorem ns_unary (op : String) (a : Node) (sp : Span) : ns (.unary op a sp) = ns a := (count_unary mentionsNs op a sp).trans (Nat.zero_add _)
@[simp] theorem ns_other (k : String) (sp : Span) (ns' : List String) (vs : List Node) : ns (.other k sp ns' vs) = nsL vs := (count_other mentionsNs k sp ns' vs).trans (Nat.zero_add _)
@[simp] theorem ns_block (ss : List Node) (sp : Span) : ns (.block ss sp) = nsL ss := (count_block mentionsNs ss sp).trans (Nat.zero_add _)
@[simp] theorem ns_arrow (ps : List Node) (b : Node) (a : String) (sp : Span) : ns (.arrow ps b a sp) = nsL ps + ns b := (count_arrow mentionsNs ps b a sp).trans (Nat.zero_add _)
@[simp] theorem ns_optChain (o : Bool) (b : Node) (sp : Span) : ns (.optChain o b sp) = ns b := (count_optChain mentionsNs o b sp).trans (Nat.zero_add _)
@[simp] theorem ns_optCall (c : Node) (as : List Node) (sp : Span) : ns (.optCall c as sp) = ns c + nsL as := (count_optCall mentionsNs c as sp).trans (Nat.zero_add _)

/-- the namespace identifier itself -/
@[simp] theorem ns_nsIdent (sp : Span) : ns (.ident (.user Generated.ddGlobalNamespace) sp) = 1 := by
  rw [ns_user]; simp

theorem ns_ddCall (e : Node) (args : List Node) (m : String) (sp : Span) :
    ns (ddCall e args m sp) = 1 + ns e + nsL args := by
  simp [ddCall, ddCallee]; omega

theorem ns_ddParen (e : Node) (args asg : List Node) (m : String) (sp : Span) :
    ns (ddParen e args asg m sp) = 1 + ns e + nsL args + nsL asg := by
  unfold ddParen
  split
  · rename_i h; have : asg = [] := by simpa using h
    subst this; simp [ns_ddCall]
  · simp [ns_ddCall]; omega

/-- telemetry and status untouched; the out-of-fuel flag is never cleared -/
def TS (s' s : St) : Prop := s'.incs = s.incs ∧ s'.status = s.status ∧ (s.fuelOut = true → s'.fuelOut = true)

theorem TS.refl (s : St) : TS s s := ⟨rfl, rfl, id⟩
theorem TS.trans {a b c : St} (h1 : TS a b) (h2 : TS b c) : TS a c :=
  ⟨h1.1.trans h2.1, h1.2.1.trans h2.2.1, fun h => h1.2.2 (h2.2.2 h)⟩

theorem isLiteralSum_ns : ∀ e : Node, isLiteralSum e = true → ns e = 0 := by
  apply Node.ind
  intro e ih h
  unfold isLiteralSum at h
  split at h
  · exact ns_lit ..
  · rw [Bool.and_eq_true, Bool.and_eq_true] at h
    rw [ns_bin, ih _ List.mem_cons_self h.1.2, ih _ (List.mem_cons_of_mem _ List.mem_cons_self) h.2]
  · cases h

theorem ns_assignRight (e : Node) (k : IdentKind) : ns (assignRight e k) = ns e := by
  cases k
  · rfl
  · rw [assignRight, ns_array, nsL_cons, ns_arg, nsL_nil]; rfl

theorem ns_exprOrSpread (e : Node) (k : IdentKind) : ns (exprOrSpread e k) = ns e := by
  cases k <;> exact ns_arg ..

theorem registerIdent_TS (n : Nat) (s : St) : TS (registerIdent n s).2 s := by
  simp only [registerIdent, run_modify]
  by_cases h : s.idents.contains n = true
  · rw [if_pos h]; exact TS.refl s
  · rw [if_neg h]; exact ⟨rfl, rfl, id⟩

theorem nextIdent_TS (s : St) : TS (nextIdent s).2 s := ⟨rfl, rfl, id⟩

theorem isLit_ns {e : Node} (h : e.isLit = true) : ns e = 0 := by
  unfold Node.isLit at h
  split at h
  · exact ns_lit ..
  · cases h

theorem getTemporalIdent_cases (operand : Node) (asg : List Node) (sp : Span) (k : IdentKind) (s : St) :
    (operand.isLit = true ∧ getTemporalIdent operand asg sp k s = ((none, asg), s)) ∨
    (operand.isLit = false ∧ ∃ n s', getTemporalIdent operand asg sp k s =
        ((some n, asg ++ [.assign "=" (tempIdent n) (assignRight operand k) sp]), s') ∧ TS s' s) := by
  unfold getTemporalIdent
  by_cases hl : operand.isLit = true
  · left; simp [hl, run_pure]
  · right
    simp only [Bool.not_eq_true] at hl
    refine ⟨hl, ?_⟩
    simp only [hl, Bool.false_eq_true, if_false, run_bind, run_pure]
    exact ⟨_, _, rfl, TS.trans (registerIdent_TS _ _) (nextIdent_TS s)⟩

theorem getIdentUsed_cases (operand : Node) (asg args : List Node) (sp : Span) (k : IdentKind) (s : St) :
    (operand.isLit = true ∧ getIdentUsed operand asg args sp k s = ((none, asg, args ++ [exprOrSpread operand k]), s)) ∨
    (operand.isLit = false ∧ ∃ n s', getIdentUsed operand asg args sp k s =
        ((some n, asg ++ [.assign "=" (tempIdent n) (assignRight operand k) sp], args ++ [exprOrSpread (tempIdent n) k]), s') ∧ TS s' s) := by
  unfold getIdentUsed
  rcases getTemporalIdent_cases operand asg sp k s with ⟨hl, h⟩ | ⟨hl, n, s', h, ht⟩
  · left; simp [hl, run_bind, run_pure, h]
  · right; exact ⟨hl, n, s', by simp [run_bind, run_pure, h], ht⟩

end IastModel
