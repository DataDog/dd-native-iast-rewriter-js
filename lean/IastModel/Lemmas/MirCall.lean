import IastModel.Lemmas.Cert
namespace IastModel
open Node

/-- **every `+` hook the rewriter builds mirrors its operands** -/
theorem toDdBinary_mirror (cfg : Config) (l r : Node) (sp : Span) (s : St) :
    ∀ e', (toDdBinary cfg (.bin "+" l r sp) s).1 = some e' →
      ∃ first args asg, e' = ddParen first args asg cfg.plusName sp ∧ MirOK cfg (ddCall first args cfg.plusName sp) :=
  fun e' he =>
    let ⟨first, args, asg, h, hc, _⟩ := toDdBinary_certAt cfg l r sp s e' he
    ⟨first, args, asg, h, hc.mirOK sp⟩

theorem toDdAssign_mirror (cfg : Config) (op : String) (left r : Node) (sp : Span) (s : St) :
    ∀ e', (toDdAssign cfg (.assign op left r sp) s).1 = some e' →
      ∃ target first args asg, e' = .assign "=" target (ddParen first args asg cfg.plusName sp) sp ∧
        MirOK cfg (ddCall first args cfg.plusName sp) :=
  fun e' he =>
    let ⟨target, first, args, asg, h, hc, _⟩ := toDdAssign_certAt cfg op left r sp s e' he
    ⟨target, first, args, asg, h, hc.mirOK sp⟩

/-- **every template hook the rewriter builds mirrors its substitutions** -/
theorem toDdTpl_mirror (cfg : Config) (es qs : List Node) (sp : Span) (s : St) :
    ∀ e', (toDdTpl cfg (.tpl es qs sp) s).1 = some e' →
      ∃ first args asg, e' = ddParen first args asg cfg.tplName sp ∧ MirOK cfg (ddCall first args cfg.tplName sp) :=
  fun e' he =>
    let ⟨first, args, asg, h, hc, _⟩ := toDdTpl_certAt cfg es qs sp s e' he
    ⟨first, args, asg, h, hc.mirOK sp⟩

def MirRes (cfg : Config) (R : Option (Node × String) × St) : Prop :=
  ∀ e' tag, R.1 = some (e', tag) →
    ∃ first args asg name sp, e' = ddParen first args asg name sp ∧ MirOK cfg (ddCall first args name sp)

/-- **every method-call hook the rewriter builds mirrors the call it wraps**: (result, function, receiver,
    arguments…), `apply` arrays element by element, spreads re-spread -/
theorem toDdCall_mirror (cfg : Config) (callee : Node) (cargs : List Node) (csp : Span) (s : St) :
    MirRes cfg (toDdCall cfg (.call callee cargs csp) s) := fun e' tag he =>
  let ⟨first, args, asg, name, sp, h, hc, _⟩ := toDdCall_cert cfg callee cargs csp s e' tag he
  ⟨first, args, asg, name, sp, h, hc.mirOK sp⟩

end IastModel
