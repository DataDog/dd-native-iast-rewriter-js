import IastModel.Lemmas.ErCall
/-
  The conclusion of the visitor theorem for one node (`EVC`), its list form `KL`, and erasing visited children in
  order (`eraseL_KL`).
-/
namespace IastModel
open Node

/-- what the operation visitor guarantees about its result `n'` for the source node `n` -/
def EVC (lo hi : Nat) (n' n : Node) : Prop :=
  ErAll lo hi n' n ∧ spanRel n' n ∧ Deep lo hi n' n ∧ isTempAssign n' = false ∧ (n'.isIdent = true → n' = n)

theorem EVC.mono {lo hi lo' hi' : Nat} {n' n : Node} (h : EVC lo hi n' n) (h1 : lo' ≤ lo) (h2 : hi ≤ hi') : EVC lo' hi' n' n :=
  ⟨h.1.mono h1 h2, h.2.1, Deep.mono h1 h2 _ _ h.2.2.1, h.2.2.2.1, h.2.2.2.2⟩

theorem isTempAssign_src {n : Node} (h : srcOk n = true) : isTempAssign n = false := by
  unfold isTempAssign
  split
  · rename_i k sp r sp'
    have := srcOk_self (srcOk_kids h (.ident (.temp k) sp) (by simp [kids]))
    simp [srcNode] at this
  · rfl

/-- the children of a node, visited one after the other -/
def KL (lo hi : Nat) (ks' ks : List Node) : Prop := Forall2 (EVC lo hi) ks' ks

theorem KL.mono {lo hi lo' hi' : Nat} (h1 : lo' ≤ lo) (h2 : hi ≤ hi') {ks' ks : List Node} (h : KL lo hi ks' ks) :
    KL lo' hi' ks' ks :=
  forall2_imp (fun _ _ hab => hab.mono h1 h2) h

theorem KL.length {lo hi : Nat} {ks' ks : List Node} (h : KL lo hi ks' ks) : ks'.length = ks.length := Forall2.length_eq h

theorem KL.deepL {lo hi : Nat} {ks' ks : List Node} (h : KL lo hi ks' ks) : DeepL lo hi ks' ks :=
  Forall2.ind (P := DeepL lo hi) trivial (fun _ _ _ _ hab _ ih => ⟨hab.1, hab.2.2.1, ih⟩) h

/-- erasing the visited children in order gives the source children, up to positions -/
theorem eraseL_KL {lo hi : Nat} : ∀ {ks' ks : List Node}, KL lo hi ks' ks → ∀ ks'', BRgL ks' ks'' → ∀ σ,
    ∃ Xs Δ, eraseL σ ks'' = (Xs, Δ ++ σ) ∧ Forall2 ESim Xs ks ∧ Win lo hi Δ := by
  intro ks'
  induction ks' with
  | nil =>
    intro ks h ks'' hb σ
    rw [BRgL.nil_inv hb]
    cases ks with
    | nil => exact ⟨[], [], rfl, by simp [Forall2], Win.nil _ _⟩
    | cons _ _ => simp [KL, Forall2] at h
  | cons x xs ih =>
    intro ks h ks'' hb σ
    obtain ⟨x'', xs'', rfl, hx, hxs⟩ := BRgL.cons_inv hb
    cases ks with
    | nil => simp [KL, Forall2] at h
    | cons y ys =>
      simp only [KL, Forall2] at h
      obtain ⟨X, Δ1, e1, s1, w1⟩ := h.1.1 x'' hx σ
      obtain ⟨Xs, Δ2, e2, s2, w2⟩ := ih h.2 xs'' hxs (Δ1 ++ σ)
      refine ⟨X :: Xs, Δ2 ++ Δ1, ?_, ?_, w2.append w1⟩
      · simp only [eraseL, e1, e2, List.append_assoc]
      · simp only [Forall2]; exact ⟨s1, s2⟩

theorem Forall2_Sim_strip {Xs ks : List Node} (h : Forall2 ESim Xs ks) : stripL Xs = stripL ks :=
  Forall2.ind (P := fun Xs ks => stripL Xs = stripL ks) rfl
    (fun _ _ _ _ hab _ ih => by simp only [stripL, hab.1, ih]) h

theorem strip_withKids (n : Node) (Xs : List Node) (h : structK n = true) (hl : Xs.length = n.kids.length)
    (hs : stripL Xs = stripL n.kids) : strip (n.withKids Xs) = strip n := by
  cases n <;> simp only [structK, Bool.false_eq_true] at h
  case atom | lit | pname => rfl
  case arr xs => simp only [withKids, strip, kids] at hs ⊢; rw [hs]
  case obj ns vs => simp only [withKids, strip, kids] at hs ⊢; rw [hs]
  case other k sp ns vs => simp only [withKids, strip, kids] at hs ⊢; rw [hs]
  case array es sp => simp only [withKids, strip, kids] at hs ⊢; rw [hs]
  case optCall c as sp =>
    match Xs, hl with
    | c' :: as', _ =>
      simp only [kids, stripL, List.cons.injEq] at hs
      simp only [withKids, strip, List.getD_cons_zero, List.drop_succ_cons, List.drop_zero, hs.1, hs.2]
  all_goals
    simp only [kids, List.length_cons, List.length_nil] at hl
    rcases Xs with _ | ⟨a, _ | ⟨b, _ | ⟨c, _ | _⟩⟩⟩ <;> simp only [List.length_cons, List.length_nil] at hl <;> try omega
    all_goals
      simp only [kids, stripL, List.cons.injEq, and_true] at hs
      simp [withKids, strip, hs]

/-- what the constructor of such a node settles, whatever the children are -/
theorem structK_head {n : Node} (h : structK n = true) (ks : List Node) :
    isBlockNode (n.withKids ks) = false ∧ isTempAssign (n.withKids ks) = false ∧ (n.withKids ks).isIdent = false ∧
      (∀ s e, n.withKids ks ≠ .arg s e) ∧ (n.withKids ks).span = n.span ∧ structK (n.withKids ks) = true := by
  cases n <;> first
    | exact Bool.noConfusion h
    | exact ⟨rfl, rfl, rfl, fun _ _ he => (by cases he), rfl, rfl⟩

theorem unSpread_withKids (n : Node) (Xs : List Node) (h : structK n = true) (hs : srcNode n = true) :
    unSpread (n.withKids Xs) = n.withKids Xs := by
  cases n <;> simp only [structK, Bool.false_eq_true] at h <;> try rfl
  case array es sp =>
    simp only [srcNode, Bool.not_eq_true'] at hs
    simp only [withKids, unSpread]
    split
    · rename_i heq
      simp only [array.injEq] at heq
      obtain ⟨h1, h2⟩ := heq
      subst h1 h2
      simp [hs]
    · rfl

theorem noSp_of_unSpread {X : Node} (h : unSpread X = X) (hna : ∀ s e, X ≠ .arg s e) : noSp X := by
  cases X <;> first | exact h | (exfalso; exact hna _ _ rfl)

end IastModel
