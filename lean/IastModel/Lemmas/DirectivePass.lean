import IastModel.Lemmas.ExprStmt
import IastModel.Lemmas.Master
import IastModel.Spec.Directives
namespace IastModel
open Node

theorem isDirective_eq (n : Node) : isDirective n = isDirectiveStmt n := by
  unfold isDirectiveStmt isDirective directiveRaw?
  split
  · rfl
  · rename_i hn
    split
    · rename_i v r lsp sp
      exact (hn v r lsp sp rfl).elim
    · rfl

theorem takeWhile_insert {α} (p : α → Bool) (l xs : List α) (hx : ∀ x, xs.head? = some x → p x = false) :
    (l.take (l.takeWhile p).length ++ xs ++ l.drop (l.takeWhile p).length).takeWhile p = l.takeWhile p := by
  induction l with
  | nil =>
    cases xs with
    | nil => simp
    | cons x xs => simp [hx x rfl]
  | cons a l ih =>
    by_cases ha : p a = true
    · simp [ha]
      simpa using ih
    · have ha' : p a = false := by simpa using ha
      simp [ha']
      cases xs with
      | nil => simp [ha']
      | cons x xs => simp [hx x rfl]



theorem isDirective_isES {x : Node} (h : isDirective x = true) : isES x = true := by
  cases x <;> first | rfl | cases h

/-- a visitor-like function leaves the directive prologue of a statement list alone when it returns
    directives unchanged and never turns anything else into a directive -/
theorem takeWhile_mapM' (g : Node → M Node)
    (h1 : ∀ x s, isDirective x = true → (g x s).1 = x)
    (h2 : ∀ x s, isDirective x = false → isDirective (g x s).1 = false) :
    ∀ (xs : List Node) (s : St), (mapM' g xs s).1.takeWhile isDirective = xs.takeWhile isDirective := by
  intro xs
  induction xs with
  | nil => intro s; rfl
  | cons x xs ih =>
    intro s
    simp only [mapM', run_bind, run_pure]
    by_cases hd : isDirective x = true
    · rw [List.takeWhile_cons, List.takeWhile_cons, h1 x s hd, hd]
      simp only [if_true]
      rw [ih]
    · simp only [Bool.not_eq_true] at hd
      rw [List.takeWhile_cons, List.takeWhile_cons, h2 x s hd, hd]
      simp

theorem isDirective_cases {x : Node} (h : isDirective x = true) :
    ∃ v r lsp sp, x = .exprStmt (.lit "StringLiteral" v r lsp) sp := by
  unfold isDirective at h
  split at h
  · exact ⟨_, _, _, _, rfl⟩
  · cases h

theorem visit_exprStmt (cfg : Config) (f : Nat) (root : Bool) (e : Node) (esp : Span) (s : St) :
    (visit cfg (f + 1) root (.exprStmt e esp) s).1 = .exprStmt (visit cfg f root e s).1 esp := by
  rw [visit_default cfg f root rfl]
  rfl

theorem visit_directive (cfg : Config) (f : Nat) (root : Bool) (x : Node) (s : St) (h : isDirective x = true) :
    (visit cfg f root x s).1 = x := by
  obtain ⟨v, r, lsp, sp, rfl⟩ := isDirective_cases h
  cases f with
  | zero => rfl
  | succ f => rw [visit_exprStmt, (visit_leaf cfg f root _ s).2 rfl]

theorem isDirective_exprStmt_lit {e : Node} {esp : Span} (h : isDirective (.exprStmt e esp) = true) : e.isLit = true := by
  obtain ⟨v, r, lsp, sp, h'⟩ := isDirective_cases h
  cases h'; rfl

theorem visit_not_directive (cfg : Config) (f : Nat) (root : Bool) (x : Node) (s : St) (h : isDirective x = false) :
    isDirective (visit cfg f root x s).1 = false := by
  by_cases hes : isES x = true
  · cases x with
    | exprStmt e esp =>
      cases f with
      | zero => simpa [visit, run_bind, run_pure] using h
      | succ f =>
        rw [visit_exprStmt]
        cases hd : isDirective (.exprStmt (visit cfg f root e s).1 esp) with
        | false => rfl
        | true =>
          exfalso
          have hl' : leaf _ = true := (Bool.or_eq_true _ _).mpr (Or.inr (isDirective_exprStmt_lit hd))
          have hl : leaf e = true := by
            cases hle : leaf e with
            | true => rfl
            | false => rw [(visit_leaf cfg f root e s).1 hle] at hl'; cases hl'
          rw [(visit_leaf cfg f root e s).2 hl] at hd
          rw [hd] at h; cases h
    | _ => simp [isES] at hes
  · simp only [Bool.not_eq_true] at hes
    have := visit_es cfg f root x s hes
    cases hd : isDirective (visit cfg f root x s).1 with
    | false => rfl
    | true => rw [isDirective_isES hd] at this; cases this


theorem blockVisit_isBlock (cfg : Config) (opFuel f : Nat) (ss : List Node) (sp : Span) (s : St) :
    ∃ ss', (blockVisit cfg opFuel f (.block ss sp) s).1 = .block ss' sp := by
  cases f with
  | zero => exact ⟨ss, by simp [blockVisit, run_bind, run_pure]⟩
  | succ f =>
    by_cases hc : s.status = .cancelled
    · exact ⟨ss, by simp [blockVisit, run_bind, run_get, run_pure, hc]⟩
    · rw [blockVisit_block cfg opFuel f ss sp s hc]
      have hn1 : ∀ s0, ∃ ks, (mapKidsM mapM' (visit cfg opFuel true) (.block ss sp) s0).1 = .block ks sp := by
        intro s0; exact ⟨(mapM' (visit cfg opFuel true) ss s0).1, by simp [mapKidsM, run_bind, run_pure, withKids, kids]⟩
      obtain ⟨ks, hks⟩ := hn1 (resetProvider s)
      split
      · exact ⟨ks, hks⟩
      · rw [hks]
        have : ∃ ks2, insertVariableDeclaration (mapKidsM mapM' (visit cfg opFuel true) (.block ss sp) (resetProvider s)).2.idents (.block ks sp) = .block ks2 sp := by
          simp only [insertVariableDeclaration]
          by_cases he : (mapKidsM mapM' (visit cfg opFuel true) (.block ss sp) (resetProvider s)).2.idents.isEmpty = true
          · exact ⟨ks, by simp only [he, if_true]⟩
          · exact ⟨insertAt ks (variableInsertionIndex ks) [letDecl (mapKidsM mapM' (visit cfg opFuel true) (.block ss sp) (resetProvider s)).2.idents sp], by simp only [he, Bool.false_eq_true, if_false]⟩
        obtain ⟨ks2, h2⟩ := this
        rw [h2]
        exact ⟨(mapM' (blockVisit cfg opFuel f) ks2 (mapKidsM mapM' (visit cfg opFuel true) (.block ss sp) (resetProvider s)).2).1,
          by simp [mapKidsM, run_bind, run_pure, withKids, kids]⟩

theorem blockVisit_withKids (cfg : Config) (opFuel f : Nat) (x : Node) (s : St) :
    ∃ ks, (blockVisit cfg opFuel f x s).1 = x.withKids ks := by
  cases hb : isBlockNode x with
  | true =>
    cases x with
    | block ss sp => exact blockVisit_isBlock cfg opFuel f ss sp s
    | _ => cases hb
  | false =>
    cases f with
    | zero => exact ⟨x.kids, x.withKids_kids.symm⟩
    | succ f => rw [blockVisit_generic cfg opFuel f x hb]; exact ⟨_, rfl⟩

theorem blockVisit_isLit (cfg : Config) (opFuel f : Nat) (e : Node) (s : St)
    (h : (blockVisit cfg opFuel f e s).1.isLit = true) : (blockVisit cfg opFuel f e s).1 = e := by
  obtain ⟨ks, hk⟩ := blockVisit_withKids cfg opFuel f e s
  rw [hk] at h ⊢
  cases e <;> first | rfl | cases h

theorem blockVisit_directive (cfg : Config) (opFuel f : Nat) (x : Node) (s : St) (h : isDirective x = true) :
    (blockVisit cfg opFuel f x s).1 = x := by
  obtain ⟨v, r, lsp, sp, rfl⟩ := isDirective_cases h
  cases f with
  | zero => rfl
  | succ f =>
    rw [blockVisit_generic cfg opFuel f _ rfl]
    simp only [mapKidsM, kids, mapM', run_bind, run_pure, withKids, List.getD_cons_zero]
    rw [(blockVisit_nokids cfg opFuel f (.lit "StringLiteral" v r lsp) s rfl rfl).1]

theorem blockVisit_not_directive (cfg : Config) (opFuel f : Nat) (x : Node) (s : St) (h : isDirective x = false) :
    isDirective (blockVisit cfg opFuel f x s).1 = false := by
  cases hes : isES x with
  | false =>
    obtain ⟨ks, hk⟩ := blockVisit_withKids cfg opFuel f x s
    cases hd : isDirective (blockVisit cfg opFuel f x s).1 with
    | false => rfl
    | true =>
      have := isDirective_isES hd
      rw [hk, withKids_isES, hes] at this
      cases this
  | true =>
    obtain ⟨e, esp, rfl⟩ := isES_inv hes
    cases f with
    | zero => exact h
    | succ f =>
      rw [blockVisit_generic cfg opFuel f _ rfl]
      show isDirective (.exprStmt (blockVisit cfg opFuel f e s).1 esp) = false
      cases hd : isDirective (.exprStmt (blockVisit cfg opFuel f e s).1 esp) with
      | false => rfl
      | true =>
        rw [blockVisit_isLit cfg opFuel f e s (isDirective_exprStmt_lit hd), h] at hd
        cases hd

/-- **C07, per block, through the whole pass.**  Whatever block statement the block visitor enters —
    a function body or any other block, at any depth — it returns a block whose leading directives
    are exactly the original statements: the operation visitor returns a directive as it is and never
    makes one, the `let` goes after the whole directive prologue, and the nested traversal leaves
    directives alone. -/
theorem block_directives_pass (cfg : Config) (opFuel f : Nat) (ss : List Node) (sp : Span) (s : St) :
    ∃ ss', (blockVisit cfg opFuel f (.block ss sp) s).1 = .block ss' sp ∧
      ss'.takeWhile isDirective = ss.takeWhile isDirective := by
  cases f with
  | zero => exact ⟨ss, by simp [blockVisit, run_bind, run_pure], rfl⟩
  | succ f =>
    by_cases hc : s.status = .cancelled
    · exact ⟨ss, by simp [blockVisit, run_bind, run_get, run_pure, hc], rfl⟩
    · rw [blockVisit_block cfg opFuel f ss sp s hc]
      have hv := takeWhile_mapM' (visit cfg opFuel true)
        (fun x s h => visit_directive cfg opFuel true x s h)
        (fun x s h => visit_not_directive cfg opFuel true x s h) ss (resetProvider s)
      have hn1 : (mapKidsM mapM' (visit cfg opFuel true) (.block ss sp) (resetProvider s)).1 =
          .block (mapM' (visit cfg opFuel true) ss (resetProvider s)).1 sp := by
        simp [mapKidsM, run_bind, run_pure, withKids, kids]
      generalize hK : mapKidsM mapM' (visit cfg opFuel true) (.block ss sp) (resetProvider s) = K at hn1
      obtain ⟨n1, s1⟩ := K
      simp only at hn1 ⊢
      generalize (mapM' (visit cfg opFuel true) ss (resetProvider s)).1 = ks at hv hn1
      subst hn1
      split
      · exact ⟨ks, rfl, hv⟩
      · have hins : ∃ ks2, insertVariableDeclaration s1.idents (.block ks sp) = .block ks2 sp ∧
            ks2.takeWhile isDirective = ks.takeWhile isDirective := by
          simp only [insertVariableDeclaration]
          by_cases he : s1.idents.isEmpty = true
          · exact ⟨ks, by simp only [he, if_true], rfl⟩
          · refine ⟨insertAt ks (variableInsertionIndex ks) [letDecl s1.idents sp], by simp only [he, Bool.false_eq_true, if_false], ?_⟩
            unfold insertAt variableInsertionIndex
            exact takeWhile_insert isDirective ks [letDecl s1.idents sp] (by intro x hx; simp at hx; subst hx; rfl)
        obtain ⟨ks2, h2, hd2⟩ := hins
        rw [h2]
        have hb := takeWhile_mapM' (blockVisit cfg opFuel f)
          (fun x s h => blockVisit_directive cfg opFuel f x s h)
          (fun x s h => blockVisit_not_directive cfg opFuel f x s h) ks2 s1
        refine ⟨(mapM' (blockVisit cfg opFuel f) ks2 s1).1, by simp [mapKidsM, run_bind, run_pure, withKids, kids], ?_⟩
        rw [hb, hd2, hv]


theorem isDirective_funext : isDirective = isDirectiveStmt := by
  funext n; exact isDirective_eq n

theorem directivesOf_congr {a b : List Node} (h : a.takeWhile isDirective = b.takeWhile isDirective) :
    directivesOf a = directivesOf b := by
  unfold directivesOf
  rw [← isDirective_funext, h]

theorem blockVisit_arr (cfg : Config) (opFuel f : Nat) (body : List Node) (s : St) :
    ∃ body', (blockVisit cfg opFuel f (.arr body) s).1 = .arr body' ∧
      body'.takeWhile isDirective = body.takeWhile isDirective := by
  cases f with
  | zero => exact ⟨body, by simp [blockVisit, run_bind, run_pure], rfl⟩
  | succ f =>
    rw [blockVisit_generic cfg opFuel f _ rfl]
    refine ⟨(mapM' (blockVisit cfg opFuel f) body s).1, by simp [mapKidsM, run_bind, run_pure, withKids, kids], ?_⟩
    exact takeWhile_mapM' (blockVisit cfg opFuel f)
      (fun x s h => blockVisit_directive cfg opFuel f x s h)
      (fun x s h => blockVisit_not_directive cfg opFuel f x s h) body s

end IastModel
