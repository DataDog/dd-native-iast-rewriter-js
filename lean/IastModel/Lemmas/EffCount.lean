import IastModel.Lemmas.CountBlock
import IastModel.Lemmas.DirectivePass
import IastModel.Lemmas.TempsVisit
/-
  `eff`: the number of effect nodes (`heavy`) of a tree, as an instance of the counting theorems: `heavy` is blind to the
  rewriter's scaffolding, to what is copied into hook arguments and to the repeated parts of a `+=` target.
-/
namespace IastModel
open Node

/-- kinds of opaque nodes whose evaluation is an effect or creates an object -/
def effKinds : List String :=
  ["NewExpression", "UpdateExpression", "YieldExpression", "AwaitExpression", "TaggedTemplateExpression",
   "FunctionExpression", "ClassExpression", "ObjectExpression", "MetaProperty"]

/-- nodes that must survive the rewrite exactly once: calls other than hook calls, optional calls, the
    opaque effectful kinds, `delete`, template literals and assignments to something that is not an
    injected temporary -/
def heavy (n : Node) : Bool :=
  match n with
  | .call .. => (hookName? n).isNone
  | .optCall .. => true
  | .other k _ _ _ => effKinds.contains k
  | .unary op _ _ => op == "delete"
  | .tpl .. => true
  | .assign _ l _ _ => !isTempIdent l
  | _ => false

def eff (n : Node) : Nat := Node.count heavy n
def effL (l : List Node) : Nat := (l.map eff).sum

theorem eff_eq (n : Node) : eff n = (if heavy n then 1 else 0) + effL n.kids := Node.count_eq heavy n

@[simp] theorem effL_nil : effL [] = 0 := rfl
@[simp] theorem effL_cons (x : Node) (xs : List Node) : effL (x :: xs) = eff x + effL xs := countL_cons heavy x xs
@[simp] theorem effL_append (xs ys : List Node) : effL (xs ++ ys) = effL xs + effL ys := countL_append heavy xs ys

theorem scaf_heavy : Scaf heavy where
  glue n h := by
    cases n <;> first | rfl | cases h | skip
    case assign op l r sp => simpa [glue, heavy] using h
    case unary op a sp =>
      have : op = "void" := by simpa [glue] using h
      subst this; rfl
    case other k sp ns vs =>
      have : k = "Computed" ∨ k = "SuperPropExpression" ∨ k = "ReturnStatement" := by simpa [glue, or_assoc] using h
      rcases this with rfl | rfl | rfl <;> rfl
  tpl _ _ _ _ _ := rfl
  call := by intro _ _ _ _ _ _ h h'; simp only [heavy, h, h']
  optCall := by intro _ _ _ _ _ _ h; simp only [heavy, h]; rfl
  assign := by intro _ _ _ _ _ _ _ _ h h'; simp only [heavy, h, h']

theorem copyBlind_heavy : CopyBlind heavy := fun n h => by
  cases n <;> first | rfl | simp [leaf, Node.isIdent, Node.isLit] at h

theorem targetBlind_heavy : TargetBlind heavy :=
  ⟨copyBlind_heavy, fun _ => rfl, fun k _ _ _ h => by rcases h with rfl | rfl | rfl <;> rfl⟩

/-- an assignment to an injected temporary is scaffolding -/
@[simp] theorem eff_assign_temp (op : String) (n : Nat) (r : Node) (sp : Span) : eff (.assign op (tempIdent n) r sp) = eff r :=
  scaf_heavy.c_tempAssign op n _ r sp

theorem effL_eq_zero : ∀ (l : List Node), effL l = 0 → ∀ k ∈ l, eff k = 0 := fun _ h => countL_eq_zero heavy h

theorem leaf_eff {e : Node} (h : leaf e = true) : eff e = 0 := copyBlind_heavy.of_leaf h

end IastModel
