import IastModel.Rewriter.Transforms
import IastModel.Lemmas.Monad
/-
  The branch structure of the call transform, stated once: whatever holds of "not modified" and of each
  of the replacement functions it hands over to holds of `toDdCall` / `replacePrototypeCallOrApply`.
-/
namespace IastModel
open Node

/-- `replacePrototypeCallOrApply` declines, or hands `X.prototype.m.call|apply(this, …)` to the spread form
    (the this-argument is a spread) or to the member form (`this` becomes the receiver) -/
theorem replacePrototype_cases {P : M (Option (Node × String)) → Prop} (cfg : Config) (cargs : List Node)
    (csp : Span) (callee member : Node) (coa : String)
    (hnone : P (pure none))
    (hspread : ∀ method msp this rest, prototypeMethodIdent member = some (method, msp) → cargs = this :: rest →
      argIsSpread this = true → P (replaceCallSpreadWithMember cfg method callee cargs csp member coa))
    (hmember : ∀ method msp this rest, prototypeMethodIdent member = some (method, msp) → cargs = this :: rest →
      argIsSpread this = false →
      P (replaceCallWithMember cfg (argExpr this) method msp (.member (argExpr this) (.pname method msp) csp) rest csp
        (some member) (some coa))) :
    P (replacePrototypeCallOrApply cfg cargs csp callee member coa) := by
  unfold replacePrototypeCallOrApply
  by_cases hc : (!isCallOrApply coa) = true
  · rw [if_pos hc]; exact hnone
  rw [if_neg hc]
  cases hpm : prototypeMethodIdent member with
  | none => exact hnone
  | some mm =>
    obtain ⟨method, msp⟩ := mm
    cases cargs with
    | nil => exact hnone
    | cons this rest =>
      dsimp only
      by_cases hs : argIsSpread this = true
      · rw [if_pos hs]; exact hspread method msp this rest hpm rfl hs
      rw [if_neg hs]
      by_cases hi : invalidArgs coa (this :: rest) = true
      · rw [if_pos hi]; exact hnone
      rw [if_neg hi]
      by_cases hl : ((argExpr this).isLit && (!cfg.allowsLiteralCallers method || allArgsAreLiteral rest)) = true
      · rw [if_pos hl]; exact hnone
      rw [if_neg hl]
      exact hmember method msp this rest hpm rfl (Bool.eq_false_iff.mpr hs)

/-- `toDdCall` declines, or the callee is `obj.m` and the call goes to the member form or to the
    `prototype` dispatcher, or it is a bare identifier -/
theorem toDdCall_cases {P : M (Option (Node × String)) → Prop} (cfg : Config) (callee : Node) (cargs : List Node)
    (csp : Span)
    (hnone : P (pure none))
    (hmember : ∀ obj m msp cs, callee = .member obj (.pname m msp) cs →
      P (replaceCallWithMember cfg obj m msp callee cargs csp none none))
    (hproto : ∀ o p sp m msp cs, callee = .member (.member o p sp) (.pname m msp) cs → isCallOrApply m = true →
      P (replacePrototypeCallOrApply cfg cargs csp callee (.member o p sp) m))
    (hbare : ∀ name isp, callee = .ident name isp → P (replaceCallWithoutCallee cfg name isp callee cargs csp)) :
    P (toDdCall cfg (.call callee cargs csp)) := by
  unfold toDdCall
  dsimp only
  split
  · rename_i obj m msp cs
    have hm := hmember obj m msp cs rfl
    split
    · split
      · exact hm
      · exact hnone
    · exact hm
    · exact hm
    · exact hm
    · exact hm
    · rename_i o p sp
      by_cases hc : isCallOrApply m = true
      · rw [if_pos hc]; exact hproto o p sp m msp cs rfl hc
      rw [if_neg hc]
      split
      · exact hm
      · exact hnone
    · exact hnone
  · rename_i name isp
    exact hbare name isp rfl
  · exact hnone

end IastModel
