import IastModel.Lemmas.CountOc
import IastModel.Lemmas.VisitInd
/-
  The operation visitor under an arbitrary counter.  `visit_rel` is the visitor's case analysis done once:
  given what each transform does to the weight (`R` relates the states and weights before and after), and
  that visiting the children does not change whether a node itself counts, the same relation holds between
  a source tree and its visited tree.  The counting theorems of the development are its instances.
-/
namespace IastModel
open Node

/-- visiting the children of a source node never makes the node itself a hook call -/
theorem hookName?_mapKids (cfg : Config) (ok : String → Bool) (hcfg : CfgOk ok cfg) (f : Nat) (r : Bool) (n : Node) (s : St)
    (h0 : ns n = 0) (ht : targetsOk n = true) (hs : StOk s) :
    hookName? (mapKidsM mapM' (visit cfg f r) n s).1 = none := by
  cases n with
  | call c as sp =>
    obtain ⟨ks', h1, hl, g, _⟩ := mapKids_spec' ok _ (fun k s h0 ht hs => visit_spec ok cfg hcfg f r k s h0 ht hs)
      (.call c as sp) s h0 ht hs
    rw [h1]
    match ks', hl, g with
    | c' :: as', _, g =>
      simp only [goodL_cons, Bool.and_eq_true] at g
      exact hookName?_call_none _ _ g.1
  | _ => rfl

/-- a relation between (state, weight) before and after that is closed under the ways the visitor
    composes steps: doing nothing to the weight, one step after another on the same node, and siblings one
    after the other -/
structure CRel (R : St → St → Nat → Nat → Prop) : Prop where
  ts : ∀ {s s' : St} (a : Nat), TS s' s → R s s' a a
  trans : ∀ {s s1 s2 : St} {a b c : Nat}, R s s1 a b → R s1 s2 b c → R s s2 a c
  add : ∀ {s s1 s2 : St} {a b c d : Nat}, R s s1 a b → R s1 s2 c d → R s s2 (a + c) (b + d)

theorem CRel.ofWeights {r : Nat → Nat → Prop} (refl : ∀ a, r a a) (trans : ∀ {a b c}, r a b → r b c → r a c)
    (add : ∀ {a b c d}, r a b → r c d → r (a + c) (b + d)) : CRel fun _ _ a b => r a b :=
  ⟨fun a _ => refl a, trans, add⟩

section
variable {p : Node → Bool} {R : St → St → Nat → Nat → Prop} (hR : CRel R)
include hR

theorem CRel.finish (root : Bool) (x : Node) {s s3 : St} {a : Nat} (h : R s s3 a (count p x)) :
    R s ((if root = true then do resetCounter; pure x else pure x : M Node) s3).2 a
      (count p ((if root = true then do resetCounter; pure x else pure x : M Node) s3).1) := by
  rw [finish_fst]
  exact hR.trans h (hR.ts _ (finish_TS root x s3))

theorem visit_rel (hp : Scaf p) (cfg : Config) (ok : String → Bool) (hcfg : CfgOk ok cfg)
  (hstable : ∀ f r n s, isBA n = false → ns n = 0 → targetsOk n = true → StOk s →
    p (mapKidsM mapM' (visit cfg f r) n s).1 = p n)
  (harrow : ∀ n s, R s s (count p n) (count p ((toDdArrow n).getD n)))
  (hbin : ∀ op l r sp s, (op == "+") = true → goodW ok true l = true → goodW ok true r = true → StOk s →
    TS (toDdBinary cfg (.bin op l r sp) s).2 s →
    R s (updateStatus (statusOf (toDdBinary cfg (.bin op l r sp) s).1) (some Generated.addTag)
          (toDdBinary cfg (.bin op l r sp) s).2).2
      (count p (.bin op l r sp)) (count p ((toDdBinary cfg (.bin op l r sp) s).1.getD (.bin op l r sp))))
  (hasg : ∀ op l r sp s, goodW ok true l = true → goodW ok true r = true → tshape l = true → StOk s →
    TS (toDdAssign cfg (.assign op l r sp) s).2 s →
    R s (updateStatus (statusOf (toDdAssign cfg (.assign op l r sp) s).1) (some Generated.addAssignTag)
          (toDdAssign cfg (.assign op l r sp) s).2).2
      (count p (.assign op l r sp)) (count p ((toDdAssign cfg (.assign op l r sp) s).1.getD (.assign op l r sp))))
  (htpl : ∀ es qs sp s, goodL ok true es = true → goodL ok true qs = true → StOk s →
    TS (toDdTpl cfg (.tpl es qs sp) s).2 s →
    R s (updateStatus (statusOf (toDdTpl cfg (.tpl es qs sp) s).1) (some Generated.tplTag)
          (toDdTpl cfg (.tpl es qs sp) s).2).2
      (count p (.tpl es qs sp)) (count p ((toDdTpl cfg (.tpl es qs sp) s).1.getD (.tpl es qs sp))))
  (hcall : ∀ c as sp s e tag, goodW ok true c = true → goodL ok true as = true → StOk s →
    TS (toDdCall cfg (.call c as sp) s).2 s → (toDdCall cfg (.call c as sp) s).1 = some (e, tag) →
    R s (updateStatus .modified (some tag) (toDdCall cfg (.call c as sp) s).2).2 (count p (.call c as sp)) (count p e)) :
    ∀ (f : Nat) (root : Bool) (n : Node) (s : St), ns n = 0 → targetsOk n = true → StOk s →
    R s (visit cfg f root n s).2 (count p n) (count p (visit cfg f root n s).1) := by
  intro f
  induction f with
  | zero => intro root n s _ _ _; exact hR.ts _ (outOfFuel_TS s)
  | succ f ih =>
    intro root n s h0 ht hs
    have hv : ∀ r, VHyp ok (visit cfg f r) := fun r k s h0 ht hs => visit_spec ok cfg hcfg f r k s h0 ht hs
    -- the children, visited one after the other
    have hkids : ∀ (r : Bool) (ks : List Node) (s : St), nsL ks = 0 → (∀ k ∈ ks, targetsOk k = true) → StOk s →
        R s (mapM' (visit cfg f r) ks s).2 (countL p ks) (countL p (mapM' (visit cfg f r) ks s).1) := by
      intro r ks
      induction ks with
      | nil => intro s _ _ _; exact hR.ts _ (TS.refl s)
      | cons k ks ihk =>
        intro s hz htk hs
        simp only [nsL_cons] at hz
        simp only [mapM', run_bind, run_pure, countL_cons]
        have hsp := visit_spec ok cfg hcfg f r k s (by omega) (htk k (by simp)) hs
        exact hR.add (ih r k s (by omega) (htk k (by simp)) hs)
          (ihk _ (by omega) (fun x hx => htk x (by simp [hx])) (hsp.2.1.stOk hs))
    -- a node rebuilt around its visited children
    have hgen : ∀ (r : Bool) (n : Node) (s : St), isBA n = false → ns n = 0 → targetsOk n = true → StOk s →
        R s (mapKidsM mapM' (visit cfg f r) n s).2 (count p n) (count p (mapKidsM mapM' (visit cfg f r) n s).1) := by
      intro r n s hba h0 ht hs
      have hh := hstable f r n s hba h0 ht hs
      simp only [mapKidsM, run_bind, run_pure] at hh ⊢
      have hl : (mapM' (visit cfg f r) n.kids s).1.length = n.kids.length :=
        (Forall2.length_eq (mapVisit_spec ok (visit cfg f r) (hv r) n.kids s (nsL_kids_of_ns0 h0)
          (targetsOk_kids ht) hs).2.2).symm
      rw [count_withKids p n _ hl, hh, count_eq' p n]
      exact hR.add (hR.ts _ (TS.refl s)) (hkids r n.kids s (nsL_kids_of_ns0 h0) (targetsOk_kids ht) hs)
    cases n with
    | ident nm sp => exact hR.ts _ (registerVariable_TS nm sp s)
    | block ss sp => exact hR.ts _ (TS.refl s)
    | arrow ps b at' sp => exact harrow _ s
    | unary op a sp =>
      rw [visit_unary]
      split
      · exact hR.ts _ (TS.refl s)
      · exact hgen root _ s rfl h0 ht hs
    | bin op l r sp =>
      by_cases hpe : cfg.plusEnabled = true
      case neg => rw [visit_bin, if_neg hpe]; exact hgen root _ s rfl h0 ht hs
      have hn1 := hgen false (.bin op l r sp) s rfl h0 ht hs
      obtain ⟨l', r', s1, hk, gl, gr, e, -⟩ := kids_two ok _ (hv false) _ s h0 ht hs rfl
      simp only [mapKidsM_run, hk, withKids, List.getD_cons_zero, List.getD_cons_succ] at hn1
      rw [visit_bin_run cfg f root hpe op l r sp s hk]
      by_cases hop : (op == "+") = true
      · rw [if_pos hop]
        have t2 := (toDdBinary_spec ok true cfg op l' r' sp s1 gl gr (hcfg.1 hpe)).1
        exact hR.finish root _ (hR.trans hn1 (hbin op l' r' sp s1 hop gl gr (e.stOk hs) t2))
      · rw [if_neg hop]; exact hR.finish root _ hn1
    | assign op l r sp =>
      by_cases hpe : cfg.plusEnabled = true
      case neg => rw [visit_assign, if_neg hpe]; exact hgen root _ s rfl h0 ht hs
      have hn1 := hgen false (.assign op l r sp) s rfl h0 ht hs
      obtain ⟨l', r', s1, hk, gl, gr, e, ql, -⟩ := kids_two ok _ (hv false) _ s h0 ht hs rfl
      simp only [mapKidsM_run, hk, withKids, List.getD_cons_zero, List.getD_cons_succ] at hn1
      rw [visit_assign_run cfg f root hpe op l r sp s hk]
      by_cases hop : (op == "+=") = true
      · rw [if_pos hop]
        have hts := tshape_plusAssign ht hop ql
        have t2 := (toDdAssign_spec ok true cfg op l' r' sp s1 gl gr hts (hcfg.1 hpe)).1
        exact hR.finish root _ (hR.trans hn1 (hasg op l' r' sp s1 gl gr hts (e.stOk hs) t2))
      · rw [if_neg hop]; exact hR.finish root _ hn1
    | tpl es qs sp =>
      by_cases hte : cfg.tplEnabled = true
      case neg => rw [visit_tpl, if_neg hte]; exact hgen root _ s rfl h0 ht hs
      by_cases hq : (!es.isEmpty && es.all fun e => !e.isLit) = true
      case neg => rw [visit_tpl, if_pos hte, if_neg hq]; exact hR.ts _ (TS.refl s)
      have hn1 := hgen false (.tpl es qs sp) s rfl h0 ht hs
      obtain ⟨ks', s1, hk, g, e, -⟩ := kids_run ok _ (hv false) (.tpl es qs sp) s h0 ht hs
      rw [mapKidsM_run, hk] at hn1
      rw [visit_tpl_run cfg f root hte es qs sp s hq hk]
      obtain ⟨g1, g2⟩ := goodL_take_drop ok true ks' es.length g
      have t2 := (toDdTpl_spec ok true cfg (ks'.take es.length) (ks'.drop es.length) sp s1 g1 g2 (hcfg.2.1 hte)).1
      exact hR.finish root _ (hR.trans hn1 (htpl _ _ sp s1 g1 g2 (e.stOk hs) t2))
    | call c as sp =>
      have hn1 := hgen false (.call c as sp) s rfl h0 ht hs
      obtain ⟨c', as', s1, hk, gc, ga, e, -⟩ := kids_cons ok _ (hv false) _ s h0 ht hs rfl
      simp only [mapKidsM_run, hk, withKids, List.getD_cons_zero, List.drop_succ_cons, List.drop_zero] at hn1
      rw [visit_call_run cfg f root c as sp s hk]
      by_cases hne : isNonExprCallee c' = true
      · rw [if_pos hne]; exact hR.finish root _ hn1
      · rw [if_neg hne]
        have t2 := (toDdCall_spec ok true cfg c' as' sp s1 hcfg.2.2 gc ga).1
        have h2 := hcall c' as' sp s1
        generalize toDdCall cfg (.call c' as' sp) s1 = X at h2 t2 ⊢
        obtain ⟨res, s2⟩ := X
        cases res with
        | none => exact hR.finish root _ (hR.trans hn1 (hR.ts _ t2))
        | some et =>
          obtain ⟨e', tag⟩ := et
          exact hR.finish root _ (hR.trans hn1 (h2 e' tag gc ga (e.stOk hs) t2 rfl))
    | optChain o b sp =>
      rw [visit_optChain]
      simp only [run_bind]
      have hE := toDdCond_cnt hp cfg f (.optChain o b sp) s h0
      have hn := toDdCond_next cfg f (.optChain o b sp) s h0 ht
      have hba := toDdCond_ba cfg f (.optChain o b sp) s rfl
      generalize toDdCond cfg f (.optChain o b sp) s = C at hE hn hba
      obtain ⟨⟨e', res⟩, s1⟩ := C
      obtain ⟨z2, b2, t⟩ := hn
      dsimp only at hE z2 b2 t hba ⊢
      have a2 : isBA (res.getD e') = false := by
        cases res with
        | none => exact hba.1
        | some r => exact hba.2 r rfl
      have := hgen false (res.getD e') s1 a2 z2 b2 ((Eff.of_TS t).stOk hs)
      rw [hE] at this
      exact hR.finish root _ (hR.trans (hR.ts _ t) this)
    | _ =>
      rw [visit_default cfg f root rfl]
      exact hgen root _ s rfl h0 ht hs

end

/-- `visit_rel` for a relation on the weights alone: what is asked of each transform is the relation
    between what it replaces and its replacement -/
theorem visit_rel_w {p : Node → Bool} {r : Nat → Nat → Prop} (refl : ∀ a, r a a)
    (trans : ∀ {a b c}, r a b → r b c → r a c) (add : ∀ {a b c d}, r a b → r c d → r (a + c) (b + d))
    (hp : Scaf p) (cfg : Config) (ok : String → Bool) (hcfg : CfgOk ok cfg)
    (hstable : ∀ f r n s, isBA n = false → ns n = 0 → targetsOk n = true → StOk s →
      p (mapKidsM mapM' (visit cfg f r) n s).1 = p n)
    (harrow : ∀ n, r (count p n) (count p ((toDdArrow n).getD n)))
    (hbin : ∀ op l r' sp s e', (op == "+") = true → (toDdBinary cfg (.bin op l r' sp) s).1 = some e' →
      r (count p (.bin op l r' sp)) (count p e'))
    (hasg : ∀ op l r' sp s e', tshape l = true → (toDdAssign cfg (.assign op l r' sp) s).1 = some e' →
      r (count p (.assign op l r' sp)) (count p e'))
    (htpl : ∀ es qs sp s e', (toDdTpl cfg (.tpl es qs sp) s).1 = some e' → r (count p (.tpl es qs sp)) (count p e'))
    (hcall : ∀ c as sp s e' tag, hookName? (.call c as sp) = none → (toDdCall cfg (.call c as sp) s).1 = some (e', tag) →
      r (count p (.call c as sp)) (count p e')) :
    ∀ (f : Nat) (root : Bool) (n : Node) (s : St), ns n = 0 → targetsOk n = true → StOk s →
      r (count p n) (count p (visit cfg f root n s).1) :=
  visit_rel (R := fun _ _ a b => r a b) (CRel.ofWeights refl trans add) hp cfg ok hcfg hstable (fun n _ => harrow n)
    (fun op l r' sp s hop _ _ _ _ => by
      cases h : (toDdBinary cfg (.bin op l r' sp) s).1 with
      | none => exact refl _
      | some e' => exact hbin op l r' sp s e' hop h)
    (fun op l r' sp s _ _ hts _ _ => by
      cases h : (toDdAssign cfg (.assign op l r' sp) s).1 with
      | none => exact refl _
      | some e' => exact hasg op l r' sp s e' hts h)
    (fun es qs sp s _ _ _ _ => by
      cases h : (toDdTpl cfg (.tpl es qs sp) s).1 with
      | none => exact refl _
      | some e' => exact htpl es qs sp s e' h)
    (fun c as sp s e tag hc _ _ _ h => hcall c as sp s e tag (hookName?_call_none as sp hc) h)

end IastModel
