import IastModel.Lemmas.EffBlock
import IastModel.Lemmas.MirCall
/-
  `cq q`: the number of hook call sites of a tree at which `q` holds, for an arbitrary `q` (C03: sites that
  do not mirror their operation; C04: sites of a given name and position).  An instance of the counting
  theorems at `isBadHook q`: a transform adds its own hook site if `q` holds of it and changes nothing else.
-/
namespace IastModel
open Node

/-- hook call sites at which `q` holds -/
def isBadHook (q : Node → Bool) (n : Node) : Bool := isHook n && q n

def cq (q : Node → Bool) (n : Node) : Nat := Node.count (isBadHook q) n
def cqL (q : Node → Bool) (l : List Node) : Nat := (l.map (cq q)).sum

theorem cq_eq (q : Node → Bool) (n : Node) : cq q n = (if isBadHook q n then 1 else 0) + cqL q n.kids :=
  Node.count_eq (isBadHook q) n

@[simp] theorem cqL_nil (q) : cqL q [] = 0 := rfl
@[simp] theorem cqL_cons (q) (x : Node) (xs : List Node) : cqL q (x :: xs) = cq q x + cqL q xs := countL_cons _ x xs
@[simp] theorem cqL_append (q) (xs ys : List Node) : cqL q (xs ++ ys) = cqL q xs + cqL q ys := countL_append _ xs ys

theorem isBadHook_of_none (q : Node → Bool) {n : Node} (h : hookName? n = none) : isBadHook q n = false := by
  simp only [isBadHook, isHook, h]; rfl

theorem isBadHook_of_some (q : Node → Bool) {n : Node} {m : String} (h : hookName? n = some m) : isBadHook q n = q n := by
  simp only [isBadHook, isHook, h]; rfl

theorem scaf_badHook (q : Node → Bool) : Scaf (isBadHook q) where
  glue n h := by cases n <;> first | rfl | cases h
  tpl _ _ _ _ _ := rfl
  call := by intro _ _ _ _ _ _ h h'; rw [isBadHook_of_none q h, isBadHook_of_none q h']
  optCall := by intro _ _ _ _ _ _ h; rw [isBadHook_of_none q h]; rfl
  assign := by intros; rfl

theorem targetBlind_badHook (q : Node → Bool) : TargetBlind (isBadHook q) :=
  ⟨fun n h => by cases n <;> first | rfl | (cases h), fun _ => rfl, fun _ _ _ _ _ => rfl⟩

theorem hookW_badHook (q : Node → Bool) {x : Node} {m : String} (h : hookName? x = some m) :
    hookW (isBadHook q) x = if q x then 1 else 0 := by
  rw [hookW_of_ident (targetBlind_badHook q).1.ident, isBadHook_of_some q h]

theorem leaf_cq (q : Node → Bool) {e : Node} (h : leaf e = true) : cq q e = 0 := (targetBlind_badHook q).1.of_leaf h

@[simp] theorem cq_pname (q) (n : String) (sp : Span) : cq q (.pname n sp) = 0 := (scaf_badHook q).c_pname n sp
@[simp] theorem cq_ident (q) (n : Name) (sp : Span) : cq q (.ident n sp) = 0 := leaf_cq q rfl
@[simp] theorem cq_bin (q) (op : String) (l r : Node) (sp : Span) : cq q (.bin op l r sp) = cq q l + cq q r :=
  (scaf_badHook q).c_bin op l r sp
@[simp] theorem cq_member (q) (o p : Node) (sp : Span) : cq q (.member o p sp) = cq q o + cq q p :=
  (scaf_badHook q).c_member o p sp
@[simp] theorem cq_block (q) (ss : List Node) (sp : Span) : cq q (.block ss sp) = cqL q ss :=
  (count_block _ ss sp).trans (Nat.zero_add _)
@[simp] theorem cq_arrow (q) (ps : List Node) (b : Node) (a : String) (sp : Span) : cq q (.arrow ps b a sp) = cqL q ps + cq q b :=
  (count_arrow _ ps b a sp).trans (Nat.zero_add _)
@[simp] theorem cq_arr (q) (xs : List Node) : cq q (.arr xs) = cqL q xs := (count_arr _ xs).trans (Nat.zero_add _)
@[simp] theorem cq_other (q) (k : String) (sp : Span) (ns' : List String) (vs : List Node) : cq q (.other k sp ns' vs) = cqL q vs :=
  (count_other _ k sp ns' vs).trans (Nat.zero_add _)

theorem cq_call_user (q) (c : Node) (as : List Node) (sp : Span) (h : hookName? (.call c as sp) = none) :
    cq q (.call c as sp) = cq q c + cqL q as := by
  show count (isBadHook q) _ = _
  rw [count_call, isBadHook_of_none q h]; exact Nat.zero_add _

theorem insertVar_cq (q : Node → Bool) (idents : List Nat) (ks : List Node) (sp : Span) :
    ∃ ks2, insertVariableDeclaration idents (.block ks sp) = .block ks2 sp ∧ cqL q ks2 = cqL q ks :=
  insertVar_cnt (letDecl_cnt (fun _ _ _ _ _ => rfl) (fun _ => rfl) (fun _ => rfl) (fun _ _ => rfl)) idents ks sp

theorem toDdBinary_Q (q : Node → Bool) (cfg : Config) (op : String) (l r : Node) (sp : Span) (s : St) :
    ∀ e', (toDdBinary cfg (.bin op l r sp) s).1 = some e' → cq q e' = (if q (lastOf e') then 1 else 0) + (cq q l + cq q r) := by
  intro e' he
  obtain ⟨hn, h⟩ := toDdBinary_cnt (scaf_badHook q) cfg op l r sp s e' he
  exact (h.eq (targetBlind_badHook q).1).trans (by rw [hookW_badHook q hn]; rfl)

theorem toDdTpl_Q (q : Node → Bool) (cfg : Config) (exprs quasis : List Node) (sp : Span) (s : St) :
    ∀ e', (toDdTpl cfg (.tpl exprs quasis sp) s).1 = some e' → cq q e' = (if q (lastOf e') then 1 else 0) + cq q (.tpl exprs quasis sp) := by
  intro e' he
  obtain ⟨hn, h⟩ := toDdTpl_cnt (scaf_badHook q) cfg exprs quasis sp s e' he
  exact (h.eq (targetBlind_badHook q).1).trans (by rw [hookW_badHook q hn]; rfl)

theorem toDdCall_Q (q : Node → Bool) (cfg : Config) (callee : Node) (cargs : List Node) (csp : Span) (s : St) :
    ∀ e' tag, (toDdCall cfg (.call callee cargs csp) s).1 = some (e', tag) →
      ∃ csi, cfg.get tag = some csi ∧ cq q e' = (if q (lastOf e') then 1 else 0) + cq q callee + cqL q cargs := by
  intro e' tag he
  obtain ⟨⟨csi, hg, hn⟩, h⟩ := toDdCall_cntU (scaf_badHook q) cfg callee cargs csp s (u := 0)
    (fun h => by rw [isBadHook_of_none q h]; rfl) e' tag he
  refine ⟨csi, hg, (h.eq (targetBlind_badHook q).1).trans ?_⟩
  rw [hookW_badHook q hn]
  show _ + (0 + (count (isBadHook q) callee + countL (isBadHook q) cargs)) = _ + count (isBadHook q) callee + countL (isBadHook q) cargs
  omega

theorem toDdAssign_Q (q : Node → Bool) (cfg : Config) (op : String) (left r : Node) (sp : Span) (s : St) (hts : tshape left = true) :
    ∀ e', (toDdAssign cfg (.assign op left r sp) s).1 = some e' → cq q e' = (if q (siteOf e') then 1 else 0) + cq q (.assign op left r sp) := by
  intro e' he
  obtain ⟨hn, κ, h, _, h0⟩ := toDdAssign_cnt (scaf_badHook q) cfg op left r sp s e' he
  exact h.trans (by rw [h0 (targetBlind_badHook q) hts, hookW_badHook q hn]; rfl)

end IastModel
