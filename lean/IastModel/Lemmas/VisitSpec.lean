import IastModel.Lemmas.Effects
/-
  The operation visitor under the master invariant (`visit_spec`): the result is good with its nested blocks untouched,
  the telemetry log grew by the number of namespace references in it, shapes are kept.  One lemma per arm over the
  induction hypothesis; the transforming arms share `vspec_transform`.
-/
namespace IastModel
open Node

/-- what the operation visitor guarantees for a tree that does not mention the namespace: the result
    is good (with its nested blocks still untouched), every namespace reference in it is matched by
    one telemetry entry, and target shapes survive -/
def VSpec (ok : String → Bool) (n : Node) (R : Node × St) (s : St) : Prop :=
  goodW ok true R.1 = true ∧ Eff s R.2 (ns R.1) ∧ Shp n R.1

def VHyp (ok : String → Bool) (v : Node → M Node) : Prop :=
  ∀ k s, ns k = 0 → targetsOk k = true → StOk s → VSpec ok k (v k s) s

theorem mapVisit_spec (ok) (v : Node → M Node) (hv : VHyp ok v) :
    ∀ (ks : List Node) (s : St), nsL ks = 0 → (∀ k ∈ ks, targetsOk k = true) → StOk s →
      goodL ok true (mapM' v ks s).1 = true ∧ Eff s (mapM' v ks s).2 (nsL (mapM' v ks s).1) ∧
      Forall2 Shp ks (mapM' v ks s).1 := by
  intro ks
  induction ks with
  | nil => intro s _ _ _; simp [mapM', run_pure, Forall2, Eff.refl]
  | cons k ks ih =>
    intro s h0 ht hs
    simp only [nsL_cons] at h0
    simp only [mapM', run_bind, run_pure]
    have h1 := hv k s (by omega) (ht k (by simp)) hs
    generalize v k s = R1 at h1
    obtain ⟨k', s1⟩ := R1
    obtain ⟨g1, e1, p1⟩ := h1
    simp only at g1 e1 p1
    have h2 := ih s1 (by omega) (fun x hx => ht x (by simp [hx])) (e1.stOk hs)
    generalize mapM' v ks s1 = R2 at h2
    obtain ⟨ks', s2⟩ := R2
    obtain ⟨g2, e2, p2⟩ := h2
    simp only at g2 e2 p2
    exact ⟨by simp [g1, g2], by simpa using e1.trans e2, by simp [Forall2, p1, p2]⟩

theorem Forall2.cons_inv {α β : Type} {R : α → β → Prop} {a : α} {as : List α} :
    ∀ {ys : List β}, Forall2 R (a :: as) ys → ∃ b bs, ys = b :: bs ∧ R a b ∧ Forall2 R as bs
  | [], h => h.elim
  | b :: bs, h => ⟨b, bs, rfl, h.1, h.2⟩

theorem Forall2.nil_inv {α β : Type} {R : α → β → Prop} : ∀ {ys : List β}, Forall2 R [] ys → ys = []
  | [], _ => rfl
  | _ :: _, h => h.elim

section
variable (ok : String → Bool) (v : Node → M Node) (hv : VHyp ok v) (n : Node) (s : St)
  (h0 : ns n = 0) (ht : targetsOk n = true) (hs : StOk s)
include hv h0 ht hs

/-- the children of a source node, visited: what the arms of the visitor start from -/
theorem kids_run : ∃ ks' s1, mapM' v n.kids s = (ks', s1) ∧ goodL ok true ks' = true ∧ Eff s s1 (nsL ks') ∧
    Forall2 Shp n.kids ks' :=
  ⟨_, _, rfl, mapVisit_spec ok v hv n.kids s (nsL_kids_of_ns0 h0) (targetsOk_kids ht) hs⟩

theorem kids_cons {c : Node} {as : List Node} (hk : n.kids = c :: as) :
    ∃ c' as' s1, mapM' v n.kids s = (c' :: as', s1) ∧ goodW ok true c' = true ∧ goodL ok true as' = true ∧
      Eff s s1 (ns c' + nsL as') ∧ Shp c c' ∧ Forall2 Shp as as' := by
  obtain ⟨ks', s1, h1, g, e, q⟩ := kids_run ok v hv n s h0 ht hs
  rw [hk] at q
  obtain ⟨c', as', rfl, qc, q⟩ := q.cons_inv
  rw [goodL_cons, Bool.and_eq_true] at g
  exact ⟨c', as', s1, h1, g.1, g.2, e, qc, q⟩

theorem kids_two {l r : Node} (hk : n.kids = [l, r]) :
    ∃ l' r' s1, mapM' v n.kids s = ([l', r'], s1) ∧ goodW ok true l' = true ∧ goodW ok true r' = true ∧
      Eff s s1 (ns l' + ns r') ∧ Shp l l' ∧ Shp r r' := by
  obtain ⟨l', rs', s1, h1, gl, g, e, ql, q⟩ := kids_cons ok v hv n s h0 ht hs hk
  obtain ⟨r', _, rfl, qr, q⟩ := q.cons_inv
  cases q.nil_inv
  rw [goodL_cons, goodL_nil, Bool.and_true] at g
  exact ⟨l', r', s1, h1, gl, g, e.cast (by rw [nsL_cons, nsL_nil, Nat.add_zero]), ql, qr⟩

theorem mapKids_spec' :
    ∃ ks', (mapKidsM mapM' v n s).1 = n.withKids ks' ∧ ks'.length = n.kids.length ∧ goodL ok true ks' = true ∧
      Eff s (mapKidsM mapM' v n s).2 (nsL ks') ∧ Forall2 Shp n.kids ks' := by
  obtain ⟨ks', s1, h1, g, e, q⟩ := kids_run ok v hv n s h0 ht hs
  rw [mapKidsM_run, h1]
  exact ⟨ks', rfl, (Forall2.length_eq q).symm, g, e, q⟩

end

theorem mapKids_spec (ok) (v : Node → M Node) (hv : VHyp ok v) (n : Node) (s : St)
    (h0 : ns n = 0) (ht : targetsOk n = true) (hs : StOk s) (hb : isBlockNode n = false) :
    VSpec ok n (mapKidsM mapM' v n s) s := by
  obtain ⟨ks', h1, hl, g, e, p⟩ := mapKids_spec' ok v hv n s h0 ht hs
  refine ⟨?_, ?_, ?_⟩
  · rw [h1]; exact good_withKids ok true n ks' (mentionsNs_of_ns0 h0) (.inr hb) g hl
  · rw [h1, ns_withKids n ks' hl, mentionsNs_of_ns0 h0]
    simpa using e
  · rw [h1]; exact shp_withKids n ks' p

/-- the common end of the `+`, `+=` and template arms -/
theorem finishTransform (ok) (s : St) (n1 : Node) (s1 : St) (res : Option Node) (s2 : St) (tag : Option String) (root : Bool)
    (hs : StOk s) (g1 : goodW ok true n1 = true) (e1 : Eff s s1 (ns n1)) (t2 : TS s2 s1)
    (hres : ∀ e', res = some e' → goodW ok true e' = true ∧ ns e' = ns n1 + 1) :
    let s3 := (updateStatus (statusOf res) tag s2).2
    let R := (if root = true then do resetCounter; pure (res.getD n1) else pure (res.getD n1) : M Node) s3
    goodW ok true R.1 = true ∧ Eff s R.2 (ns R.1) := by
  intro s3 R
  have hR1 : R.1 = res.getD n1 := finish_fst root _ s3
  have e2 : Eff s s2 (ns n1) := by simpa using e1.trans (Eff.of_TS t2)
  have e3 : Eff s2 s3 (if res.isSome then 1 else 0) := updateStatus_statusOf res tag s2 (e2.stOk hs)
  have e4 : Eff s R.2 (ns n1 + (if res.isSome then 1 else 0)) :=
    ((e2.trans e3).trans (Eff.of_TS (finish_TS root (res.getD n1) s3))).cast (by omega)
  rw [hR1]
  cases res with
  | none => exact ⟨g1, by simpa using e4⟩
  | some e' =>
    obtain ⟨g, c⟩ := hres e' rfl
    exact ⟨g, by simpa [c] using e4⟩


theorem vspec_finish (ok) (n : Node) (s : St) (root : Bool) (x : Node) (s3 : St)
    (hg : goodW ok true x = true) (he : Eff s s3 (ns x)) (hshp : Shp n x) :
    VSpec ok n ((if root = true then do resetCounter; pure x else pure x : M Node) s3) s := by
  refine ⟨?_, ?_, ?_⟩
  · rw [finish_fst]; exact hg
  · rw [finish_fst]; exact (he.trans (Eff.of_TS (finish_TS root x s3))).cast (by omega)
  · rw [finish_fst]; exact hshp

theorem goodL_take_drop (ok u) (ks : List Node) (k : Nat) (h : goodL ok u ks = true) :
    goodL ok u (ks.take k) = true ∧ goodL ok u (ks.drop k) = true := by
  have := h
  rw [← List.take_append_drop k ks, goodL_append, Bool.and_eq_true] at this
  exact this

theorem nsL_take_drop (ks : List Node) (k : Nat) : nsL (ks.take k) + nsL (ks.drop k) = nsL ks := by
  conv => rhs; rw [← List.take_append_drop k ks]
  rw [nsL_append]

theorem vspec_zero (ok) (n x : Node) (s s' : St) (hn : ns x = 0) (hb : bad x = 0) (t : TS s' s) (hshp : Shp n x) :
    VSpec ok n (x, s') s :=
  ⟨good_of_ns0 ok true x hn hb, hn.symm ▸ Eff.of_TS t, hshp⟩

/-- after the children: the transform, the status update and the end of the arm.  The `+`, `+=` and
    template arms end like this; none of the three node kinds is a target shape -/
theorem vspec_transform (ok) (n : Node) (s : St) (root : Bool) (tag : Option String) (hs : StOk s) (hshp : ∀ x, Shp n x)
    (n1 : Node) (s1 : St) (g1 : goodW ok true n1 = true) (e1 : Eff s s1 (ns n1))
    (X : Option Node × St) (hX : TrSpec ok true (ns n1) X s1) :
    VSpec ok n ((if root = true then do resetCounter; pure (X.1.getD n1) else pure (X.1.getD n1) : M Node)
      (updateStatus (statusOf X.1) tag X.2).2) s := by
  obtain ⟨a, b⟩ := finishTransform ok s n1 s1 X.1 X.2 tag root hs g1 e1 hX.1 hX.2
  exact ⟨a, b, hshp _⟩

/-- the target of a compound assignment has a target shape, and visiting keeps it -/
theorem tshape_plusAssign {op : String} {l r l' : Node} {sp : Span} (ht : targetsOk (.assign op l r sp) = true)
    (ho : (op == "+=") = true) (ql : Shp l l') : tshape l' = true := by
  refine ql.1 (((Bool.or_eq_true _ _).mp (targetsOk_self ht)).resolve_left fun h => ?_)
  rw [eq_of_beq ho] at h
  exact absurd h (by decide)

/-- what the operation visitor walks after the optional-chain lowering (the lowered expression, or the chain as it
    was left) is again a source tree -/
theorem toDdCond_next (cfg : Config) (f : Nat) (n : Node) (s : St) (h0 : ns n = 0) (ht : targetsOk n = true) :
    ns ((toDdCond cfg f n s).1.2.getD (toDdCond cfg f n s).1.1) = 0 ∧
      targetsOk ((toDdCond cfg f n s).1.2.getD (toDdCond cfg f n s).1.1) = true ∧ TS (toDdCond cfg f n s).2 s := by
  obtain ⟨z1, z2, t⟩ := toDdCond_z cfg f n s h0
  obtain ⟨b1, b2, -⟩ := toDdCond_b cfg f n s ((bad_zero_iff _).mpr ht)
  cases h : (toDdCond cfg f n s).1.2 with
  | none => exact ⟨z1, (bad_zero_iff _).mp b1, t⟩
  | some r => exact ⟨z2 r h, (bad_zero_iff _).mp (b2 r h), t⟩

theorem count_toDdArrow {p : Node → Bool} (ha : ∀ ps b a sp, p (.arrow ps b a sp) = false)
    (hb : ∀ ss sp, p (.block ss sp) = false) (ho : ∀ k sp ns vs, p (.other k sp ns vs) = false) (n : Node) :
    count p ((toDdArrow n).getD n) = count p n := by
  unfold toDdArrow
  split
  · split
    · rfl
    · simp only [Option.getD_some, returnStmt, count_arrow, count_block, count_other, ha, hb, ho, countL_cons, countL_nil,
        Bool.false_eq_true, if_false, Nat.zero_add, Nat.add_zero]
  · rfl

section
variable (ok : String → Bool) (cfg : Config) (hcfg : CfgOk ok cfg) (f : Nat) (hv : ∀ r, VHyp ok (visit cfg f r))
include hcfg hv

theorem visit_spec_bin (root : Bool) (op : String) (l r : Node) (sp : Span) (s : St)
    (h0 : ns (.bin op l r sp) = 0) (ht : targetsOk (.bin op l r sp) = true) (hs : StOk s) :
    VSpec ok (.bin op l r sp) (visit cfg (f + 1) root (.bin op l r sp) s) s := by
  by_cases hpe : cfg.plusEnabled = true
  case neg => rw [visit_bin, if_neg hpe]; exact mapKids_spec ok _ (hv root) _ s h0 ht hs rfl
  obtain ⟨l', r', s1, hk, gl, gr, e, -⟩ := kids_two ok _ (hv false) _ s h0 ht hs rfl
  rw [visit_bin_run cfg f root hpe op l r sp s hk]
  have gn1 : goodW ok true (.bin op l' r' sp) = true := by rw [good_bin, gl, gr]; rfl
  have e1 : Eff s s1 (ns (.bin op l' r' sp)) := e.cast (ns_bin ..).symm
  by_cases ho : (op == "+") = true
  · rw [if_pos ho]
    exact vspec_transform ok _ s root _ hs (fun _ => Shp.of_false rfl rfl rfl) _ s1 gn1 e1 _
      (ns_bin op l' r' sp ▸ toDdBinary_spec ok true cfg op l' r' sp s1 gl gr (hcfg.1 hpe))
  · rw [if_neg ho]
    exact vspec_finish ok _ s root _ s1 gn1 e1 (Shp.of_false rfl rfl rfl)

theorem visit_spec_assign (root : Bool) (op : String) (l r : Node) (sp : Span) (s : St)
    (h0 : ns (.assign op l r sp) = 0) (ht : targetsOk (.assign op l r sp) = true) (hs : StOk s) :
    VSpec ok (.assign op l r sp) (visit cfg (f + 1) root (.assign op l r sp) s) s := by
  by_cases hpe : cfg.plusEnabled = true
  case neg => rw [visit_assign, if_neg hpe]; exact mapKids_spec ok _ (hv root) _ s h0 ht hs rfl
  obtain ⟨l', r', s1, hk, gl, gr, e, ql, -⟩ := kids_two ok _ (hv false) _ s h0 ht hs rfl
  rw [visit_assign_run cfg f root hpe op l r sp s hk]
  have gn1 : goodW ok true (.assign op l' r' sp) = true := by rw [good_assign, gl, gr]; rfl
  have e1 : Eff s s1 (ns (.assign op l' r' sp)) := e.cast (ns_assign ..).symm
  by_cases ho : (op == "+=") = true
  · rw [if_pos ho]
    have hts := tshape_plusAssign ht ho ql
    exact vspec_transform ok _ s root _ hs (fun _ => Shp.of_false rfl rfl rfl) _ s1 gn1 e1 _
      (ns_assign op l' r' sp ▸ toDdAssign_spec ok true cfg op l' r' sp s1 gl gr hts (hcfg.1 hpe))
  · rw [if_neg ho]
    exact vspec_finish ok _ s root _ s1 gn1 e1 (Shp.of_false rfl rfl rfl)

theorem visit_spec_tpl (root : Bool) (es qs : List Node) (sp : Span) (s : St)
    (h0 : ns (.tpl es qs sp) = 0) (ht : targetsOk (.tpl es qs sp) = true) (hs : StOk s) :
    VSpec ok (.tpl es qs sp) (visit cfg (f + 1) root (.tpl es qs sp) s) s := by
  by_cases hte : cfg.tplEnabled = true
  case neg => rw [visit_tpl, if_neg hte]; exact mapKids_spec ok _ (hv root) _ s h0 ht hs rfl
  by_cases hq : (!es.isEmpty && es.all fun e => !e.isLit) = true
  case neg =>
    rw [visit_tpl, if_pos hte, if_neg hq]
    exact vspec_zero ok _ _ s s h0 ((bad_zero_iff _).mpr ht) (TS.refl s) (Shp.refl _)
  obtain ⟨ks', s1, hk, g, e, -⟩ := kids_run ok _ (hv false) (.tpl es qs sp) s h0 ht hs
  rw [visit_tpl_run cfg f root hte es qs sp s hq hk]
  obtain ⟨g1, g2⟩ := goodL_take_drop ok true ks' es.length g
  have hn : ns (.tpl (ks'.take es.length) (ks'.drop es.length) sp) = nsL ks' := by rw [ns_tpl, nsL_take_drop]
  exact vspec_transform ok _ s root _ hs (fun _ => Shp.of_false rfl rfl rfl) (.tpl (ks'.take es.length) (ks'.drop es.length) sp)
    s1 (by rw [good_tpl, g1, g2]; rfl) (e.cast hn.symm) _
    (ns_tpl (ks'.take es.length) (ks'.drop es.length) sp ▸ toDdTpl_spec ok true cfg _ _ sp s1 g1 g2 (hcfg.2.1 hte))

theorem visit_spec_call (root : Bool) (c : Node) (as : List Node) (sp : Span) (s : St)
    (h0 : ns (.call c as sp) = 0) (ht : targetsOk (.call c as sp) = true) (hs : StOk s) :
    VSpec ok (.call c as sp) (visit cfg (f + 1) root (.call c as sp) s) s := by
  obtain ⟨c', as', s1, hk, gc, ga, e, -⟩ := kids_cons ok _ (hv false) _ s h0 ht hs rfl
  rw [visit_call_run cfg f root c as sp s hk]
  have gn1 : goodW ok true (.call c' as' sp) = true := by rw [good_call _ _ _ _ _ gc]; exact ga
  have e1 : Eff s s1 (ns (.call c' as' sp)) := e.cast (by rw [ns_call])
  have shp : ∀ x, Shp (.call c as sp) x := fun _ => Shp.of_false rfl rfl rfl
  by_cases hne : isNonExprCallee c' = true
  · rw [if_pos hne]
    exact vspec_finish ok _ s root _ s1 gn1 e1 (shp _)
  · rw [if_neg hne]
    obtain ⟨t2, hres⟩ := toDdCall_spec ok true cfg c' as' sp s1 hcfg.2.2 gc ga
    generalize toDdCall cfg (.call c' as' sp) s1 = X at t2 hres
    obtain ⟨res, s2⟩ := X
    have e2 : Eff s s2 (ns (.call c' as' sp)) := (e1.trans (Eff.of_TS t2)).cast (Nat.add_zero _)
    cases res with
    | none => exact vspec_finish ok _ s root _ s2 gn1 e2 (shp _)
    | some et =>
      obtain ⟨ge, ce⟩ := hres et.1 et.2 rfl
      exact vspec_finish ok _ s root _ _ ge
        ((e2.trans (updateStatus_modified (some et.2) s2 (e2.stOk hs))).cast (by rw [ce, ns_call])) (shp _)

omit hcfg in
theorem visit_spec_optChain (root : Bool) (o : Bool) (b : Node) (sp : Span) (s : St)
    (h0 : ns (.optChain o b sp) = 0) (ht : targetsOk (.optChain o b sp) = true) (hs : StOk s) :
    VSpec ok (.optChain o b sp) (visit cfg (f + 1) root (.optChain o b sp) s) s := by
  rw [visit, run_bind]
  have hn := toDdCond_next cfg f (.optChain o b sp) s h0 ht
  have hnb := toDdCond_nb cfg f (.optChain o b sp) s rfl
  generalize toDdCond cfg f (.optChain o b sp) s = C at hn hnb
  obtain ⟨⟨e', res⟩, s1⟩ := C
  obtain ⟨z2, b2, t⟩ := hn
  dsimp only at z2 b2 t hnb ⊢
  have n2 : isBlockNode (res.getD e') = false := by
    cases res with
    | none => exact hnb.1
    | some r => exact hnb.2 r rfl
  have e0 : Eff s s1 0 := Eff.of_TS t
  obtain ⟨g3, ef3, -⟩ := mapKids_spec ok _ (hv false) (res.getD e') s1 z2 b2 (e0.stOk hs) n2
  rw [run_bind]
  exact vspec_finish ok _ s root _ _ g3 ((e0.trans ef3).cast (Nat.zero_add _)) (Shp.of_false rfl rfl rfl)

end

theorem visit_spec (ok) (cfg : Config) (hcfg : CfgOk ok cfg) : ∀ (f : Nat) (root : Bool) (n : Node) (s : St),
    ns n = 0 → targetsOk n = true → StOk s → VSpec ok n (visit cfg f root n s) s := by
  intro f
  induction f with
  | zero =>
    intro root n s h0 ht hs
    exact vspec_zero ok n n s _ h0 ((bad_zero_iff _).mpr ht) (outOfFuel_TS s) (Shp.refl n)
  | succ f ih =>
    intro root n s h0 ht hs
    have hv : ∀ r, VHyp ok (visit cfg f r) := fun r k s h0 ht hs => ih r k s h0 ht hs
    have hb0 := (bad_zero_iff _).mpr ht
    cases n with
    | ident nm sp => exact vspec_zero ok _ _ s _ h0 hb0 (registerVariable_TS nm sp s) (Shp.refl _)
    | block ss sp => exact vspec_zero ok _ _ s s h0 hb0 (TS.refl s) (Shp.refl _)
    | arrow ps b at' sp =>
      exact vspec_zero ok _ _ s s
        ((count_toDdArrow (p := mentionsNs) (fun _ _ _ _ => rfl) (fun _ _ => rfl) (fun _ _ _ _ => rfl) _).trans h0)
        ((count_toDdArrow (p := fun k => !assignTargetOk k) (fun _ _ _ _ => rfl) (fun _ _ => rfl) (fun _ _ _ _ => rfl) _).trans hb0)
        (TS.refl s) (Shp.of_false rfl rfl rfl)
    | unary op a sp =>
      rw [visit]
      by_cases hd : isDelete op = true
      · rw [if_pos hd]; exact vspec_zero ok _ _ s s h0 hb0 (TS.refl s) (Shp.refl _)
      · rw [if_neg hd]; exact mapKids_spec ok _ (hv root) _ s h0 ht hs rfl
    | bin op l r sp => exact visit_spec_bin ok cfg hcfg f hv root op l r sp s h0 ht hs
    | assign op l r sp => exact visit_spec_assign ok cfg hcfg f hv root op l r sp s h0 ht hs
    | tpl es qs sp => exact visit_spec_tpl ok cfg hcfg f hv root es qs sp s h0 ht hs
    | call c as sp => exact visit_spec_call ok cfg hcfg f hv root c as sp s h0 ht hs
    | optChain o b sp => exact visit_spec_optChain ok cfg f hv root o b sp s h0 ht hs
    | _ => exact mapKids_spec ok _ (hv root) _ s h0 ht hs rfl

end IastModel
