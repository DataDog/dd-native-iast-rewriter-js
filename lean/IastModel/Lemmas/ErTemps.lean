import IastModel.Lemmas.ErBlock
/-
  No temporary survives erasure: a tree that is a temporary-free source tree up to positions has no
  temporary in it.  With the erasure theorem this says that every read of an injected temporary is
  resolved, in evaluation order, by an assignment made before it in the same block.
-/
namespace IastModel
open Node

def noTempK (k : Node) : Bool := (tempOf? k).isNone
def noTemps (n : Node) : Bool := Node.all noTempK n

theorem noTemps_eq (n : Node) : noTemps n = (noTempK n && n.kids.all noTemps) := by
  unfold noTemps; rw [Node.all_eq]

theorem stripL_map (l : List Node) : stripL l = l.map strip := by
  induction l with
  | nil => rfl
  | cons x xs ih => simp [stripL, ih]

theorem kids_strip (n : Node) : (strip n).kids = stripL n.kids := by
  cases n <;> simp [strip, kids, stripL_map]

theorem noTempK_strip (n : Node) : noTempK (strip n) = noTempK n := by
  cases n with
  | ident nm sp => cases nm <;> rfl
  | _ => rfl

theorem all_congr_mem {f g : Node → Bool} : ∀ (l : List Node), (∀ k ∈ l, f k = g k) → l.all f = l.all g := by
  intro l
  induction l with
  | nil => intro _; rfl
  | cons x xs ih => intro h; simp only [List.all_cons, h x (by simp), ih (fun k hk => h k (by simp [hk]))]

theorem noTemps_strip : ∀ n : Node, noTemps (strip n) = noTemps n := by
  apply Node.ind
  intro n ih
  rw [noTemps_eq, noTemps_eq n, kids_strip, noTempK_strip, stripL_map, List.all_map]
  congr 1
  exact all_congr_mem n.kids (fun k hk => ih k hk)

theorem noTemps_src : ∀ n : Node, srcOk n = true → noTemps n = true := by
  apply Node.ind
  intro n ih hs
  rw [noTemps_eq, Bool.and_eq_true]
  refine ⟨?_, List.all_eq_true.mpr (fun k hk => ih k hk (srcOk_kids hs k hk))⟩
  have h0 := srcOk_self hs
  cases n with
  | ident nm sp =>
    cases nm with
    | user x => rfl
    | temp k => simp [srcNode] at h0
  | _ => rfl

theorem hasTemp_eq (n : Node) : hasTemp n = !noTemps n := rfl

end IastModel
