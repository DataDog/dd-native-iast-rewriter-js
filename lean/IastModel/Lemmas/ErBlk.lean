import IastModel.Lemmas.ErVisitMain
import IastModel.Lemmas.CountOc
/-
  Every block statement inside what the operation visitor returns is a block statement of its input (or
  the `{ return e }` it wrapped an arrow body of the input in): still a well-formed source block without
  optional chaining, which is what the block visitor's own theorem asks of the nested blocks it enters next.
-/
namespace IastModel
open Node
variable {cfg : Config}

/-- a block statement fit for the block visitor theorem -/
def Qb (cfg : Config) (b : Node) : Bool := srcOk b && noOpt cfg b

def bq (cfg : Config) (k : Node) : Bool := !isBlockNode k || Qb cfg k

/-- every block statement anywhere in the tree is a well-formed source block without optional chaining -/
def blkOk (cfg : Config) (n : Node) : Bool := Node.all (bq cfg) n
def blkOkL (cfg : Config) (l : List Node) : Bool := l.all (blkOk cfg)

theorem blkOk_eq (n : Node) : blkOk cfg n = (bq cfg n && blkOkL cfg n.kids) := by
  unfold blkOk blkOkL; rw [Node.all_eq]; rfl

@[simp] theorem blkOkL_nil : blkOkL cfg [] = true := rfl
@[simp] theorem blkOkL_cons (x : Node) (xs : List Node) : blkOkL cfg (x :: xs) = (blkOk cfg x && blkOkL cfg xs) := by simp [blkOkL]
@[simp] theorem blkOkL_append (xs ys : List Node) : blkOkL cfg (xs ++ ys) = (blkOkL cfg xs && blkOkL cfg ys) := by simp [blkOkL]

theorem blkOk_nb (n : Node) (h : isBlockNode n = false) : blkOk cfg n = blkOkL cfg n.kids := by
  rw [blkOk_eq]; simp [bq, h]

@[simp] theorem blkOk_atom (s : String) : blkOk cfg (.atom s) = true := by rw [blkOk_nb _ rfl]; rfl
@[simp] theorem blkOk_lit (k v r : String) (sp : Span) : blkOk cfg (.lit k v r sp) = true := by rw [blkOk_nb _ rfl]; rfl
@[simp] theorem blkOk_ident (nm : Name) (sp : Span) : blkOk cfg (.ident nm sp) = true := by rw [blkOk_nb _ rfl]; rfl
@[simp] theorem blkOk_pname (nm : String) (sp : Span) : blkOk cfg (.pname nm sp) = true := by rw [blkOk_nb _ rfl]; rfl
@[simp] theorem blkOk_arr (xs : List Node) : blkOk cfg (.arr xs) = blkOkL cfg xs := by rw [blkOk_nb _ rfl]; rfl
@[simp] theorem blkOk_obj (ns : List String) (vs : List Node) : blkOk cfg (.obj ns vs) = blkOkL cfg vs := by rw [blkOk_nb _ rfl]; rfl
@[simp] theorem blkOk_other (k : String) (sp : Span) (ns : List String) (vs : List Node) : blkOk cfg (.other k sp ns vs) = blkOkL cfg vs := by
  rw [blkOk_nb _ rfl]; rfl
@[simp] theorem blkOk_bin (op : String) (l r : Node) (sp : Span) : blkOk cfg (.bin op l r sp) = (blkOk cfg l && blkOk cfg r) := by
  rw [blkOk_nb _ rfl]; simp [kids]
@[simp] theorem blkOk_assign (op : String) (l r : Node) (sp : Span) : blkOk cfg (.assign op l r sp) = (blkOk cfg l && blkOk cfg r) := by
  rw [blkOk_nb _ rfl]; simp [kids]
@[simp] theorem blkOk_tpl (es qs : List Node) (sp : Span) : blkOk cfg (.tpl es qs sp) = (blkOkL cfg es && blkOkL cfg qs) := by
  rw [blkOk_nb _ rfl]; simp [kids]
@[simp] theorem blkOk_call (c : Node) (as : List Node) (sp : Span) : blkOk cfg (.call c as sp) = (blkOk cfg c && blkOkL cfg as) := by
  rw [blkOk_nb _ rfl]; simp [kids]
@[simp] theorem blkOk_arg (s : Option Span) (e : Node) : blkOk cfg (.arg s e) = blkOk cfg e := by
  rw [blkOk_nb _ rfl]; simp [kids]
@[simp] theorem blkOk_member (o p : Node) (sp : Span) : blkOk cfg (.member o p sp) = (blkOk cfg o && blkOk cfg p) := by
  rw [blkOk_nb _ rfl]; simp [kids]
@[simp] theorem blkOk_unary (op : String) (a : Node) (sp : Span) : blkOk cfg (.unary op a sp) = blkOk cfg a := by
  rw [blkOk_nb _ rfl]; simp [kids]
@[simp] theorem blkOk_arrow (ps : List Node) (b : Node) (a : String) (sp : Span) : blkOk cfg (.arrow ps b a sp) = (blkOkL cfg ps && blkOk cfg b) := by
  rw [blkOk_nb _ rfl]; simp [kids]
@[simp] theorem blkOk_paren (e : Node) (sp : Span) : blkOk cfg (.paren e sp) = blkOk cfg e := by
  rw [blkOk_nb _ rfl]; simp [kids]
@[simp] theorem blkOk_seq (es : List Node) (sp : Span) : blkOk cfg (.seq es sp) = blkOkL cfg es := by rw [blkOk_nb _ rfl]; rfl
@[simp] theorem blkOk_array (es : List Node) (sp : Span) : blkOk cfg (.array es sp) = blkOkL cfg es := by rw [blkOk_nb _ rfl]; rfl
@[simp] theorem blkOk_cond (t c a : Node) (sp : Span) : blkOk cfg (.cond t c a sp) = (blkOk cfg t && blkOk cfg c && blkOk cfg a) := by
  rw [blkOk_nb _ rfl]; simp [kids, Bool.and_assoc]

theorem blkOk_kids {n : Node} (h : blkOk cfg n = true) : ∀ k ∈ n.kids, blkOk cfg k = true := by
  rw [blkOk_eq, Bool.and_eq_true] at h
  intro k hk
  exact List.all_eq_true.mp h.2 k hk

theorem blkOkL_mem {l : List Node} (h : blkOkL cfg l = true) : ∀ k ∈ l, blkOk cfg k = true := List.all_eq_true.mp h

theorem blkOkL_of {l : List Node} (h : ∀ k ∈ l, blkOk cfg k = true) : blkOkL cfg l = true := List.all_eq_true.mpr h

/-- a well-formed source tree without optional chaining has only such blocks -/
theorem blkOk_src : ∀ n : Node, srcOk n = true → noOpt cfg n = true → blkOk cfg n = true := by
  apply Node.ind
  intro n ih hs hn
  rw [blkOk_eq, Bool.and_eq_true]
  refine ⟨?_, blkOkL_of (fun k hk => ih k hk (srcOk_kids hs k hk) (noOpt_kids hn k hk))⟩
  simp [bq, Qb, hs, hn]

theorem blkOk_withKids (n : Node) (ks : List Node) (hb : isBlockNode n = false) (hl : ks.length = n.kids.length)
    (hk : blkOkL cfg ks = true) : blkOk cfg (n.withKids ks) = true := by
  have hb' : isBlockNode (n.withKids ks) = false := by cases n <;> first | rfl | simp [isBlockNode] at hb
  rw [blkOk_nb _ hb', Node.kids_withKids n ks hl]
  exact hk

@[simp] theorem blkOk_tempIdent (k : Nat) : blkOk cfg (tempIdent k) = true := by simp [tempIdent]
@[simp] theorem blkOk_assignRight (e : Node) (k : IdentKind) : blkOk cfg (assignRight e k) = blkOk cfg e := by
  cases k <;> simp [assignRight]

theorem getTemporalIdent_blk (operand : Node) (asg : List Node) (sp : Span) (k : IdentKind) (s : St)
    (ho : blkOk cfg operand = true) (ha : blkOkL cfg asg = true) : blkOkL cfg (getTemporalIdent operand asg sp k s).1.2 = true := by
  rcases getTemporalIdent_casesC operand asg sp k s with ⟨_, h⟩ | ⟨_, s', h, _⟩ <;> rw [h] <;> simp [ha, ho]

/-- a block statement not fit for the block visitor theorem -/
def unfit (cfg : Config) (k : Node) : Bool := !bq cfg k

theorem blkOk_iff : ∀ n : Node, blkOk cfg n = true ↔ count (unfit cfg) n = 0 := by
  apply Node.ind
  intro n ih
  have hl : blkOkL cfg n.kids = true ↔ countL (unfit cfg) n.kids = 0 :=
    ⟨fun h => countL_zero_of _ fun k hk => (ih k hk).mp (blkOkL_mem h k hk),
     fun h => blkOkL_of fun k hk => (ih k hk).mpr (countL_eq_zero _ h k hk)⟩
  rw [blkOk_eq, count_eq', Bool.and_eq_true, Nat.add_eq_zero_iff, hl]
  by_cases hb : bq cfg n = true <;> simp [unfit, hb]

theorem blkOkL_iff (l : List Node) : blkOkL cfg l = true ↔ countL (unfit cfg) l = 0 :=
  ⟨fun h => countL_zero_of _ fun k hk => (blkOk_iff k).mp (blkOkL_mem h k hk),
   fun h => blkOkL_of fun k hk => (blkOk_iff k).mpr (countL_eq_zero _ h k hk)⟩

theorem scaf_unfit (cfg : Config) : Scaf (unfit cfg) where
  glue n h := by cases n <;> first | rfl | cases h
  tpl _ _ _ _ _ := rfl
  call := by intros; rfl
  optCall := by intros; rfl
  assign := by intros; rfl

theorem targetBlind_unfit (cfg : Config) : TargetBlind (unfit cfg) :=
  ⟨fun n h => by cases n <;> first | rfl | (cases h), fun _ => rfl, fun _ _ _ _ _ => rfl⟩

theorem hookW_unfit (cfg : Config) {x : Node} {m : String} (h : hookName? x = some m) : hookW (unfit cfg) x = 0 := by
  obtain ⟨_, _, _, _, _, _, rfl, _⟩ := hookName?_some h
  rw [hookW_of_ident fun _ _ => rfl]; rfl

theorem toDdBinary_blk (cfg : Config) (op : String) (l r : Node) (sp : Span) (s : St)
    (hl : blkOk cfg l = true) (hr : blkOk cfg r = true) :
    blkOk cfg ((toDdBinary cfg (.bin op l r sp) s).1.getD (.bin op l r sp)) = true := by
  cases he : (toDdBinary cfg (.bin op l r sp) s).1 with
  | none => rw [Option.getD_none, blkOk_bin, hl, hr]; rfl
  | some e1 =>
    obtain ⟨hn, h⟩ := toDdBinary_cnt (scaf_unfit cfg) cfg op l r sp s e1 he
    rw [Option.getD_some, blkOk_iff, h.eq (targetBlind_unfit cfg).1, hookW_unfit cfg hn, (blkOk_iff l).mp hl, (blkOk_iff r).mp hr]

theorem toDdTpl_blk (cfg : Config) (es qs : List Node) (sp : Span) (s : St) (h : blkOk cfg (.tpl es qs sp) = true) :
    blkOk cfg ((toDdTpl cfg (.tpl es qs sp) s).1.getD (.tpl es qs sp)) = true := by
  cases he : (toDdTpl cfg (.tpl es qs sp) s).1 with
  | none => exact h
  | some e1 =>
    obtain ⟨hn, h1⟩ := toDdTpl_cnt (scaf_unfit cfg) cfg es qs sp s e1 he
    rw [Option.getD_some, blkOk_iff, h1.eq (targetBlind_unfit cfg).1, hookW_unfit cfg hn, (blkOk_iff _).mp h]

theorem toDdAssign_blk (cfg : Config) (op : String) (l r : Node) (sp : Span) (s : St) (h : blkOk cfg (.assign op l r sp) = true) :
    blkOk cfg ((toDdAssign cfg (.assign op l r sp) s).1.getD (.assign op l r sp)) = true := by
  cases he : (toDdAssign cfg (.assign op l r sp) s).1 with
  | none => exact h
  | some e1 =>
    obtain ⟨hn, κ, h1, hk, _⟩ := toDdAssign_cnt (scaf_unfit cfg) cfg op l r sp s e1 he
    rw [hookW_unfit cfg hn, (blkOk_iff _).mp h] at h1
    rw [(blkOk_iff _).mp h] at hk
    rw [Option.getD_some, blkOk_iff, h1, Nat.le_zero.mp hk]

theorem toDdCall_blk (cfg : Config) (c : Node) (as : List Node) (csp : Span) (s : St)
    (hc : blkOk cfg c = true) (ha : blkOkL cfg as = true) :
    ∀ e1 tag, (toDdCall cfg (.call c as csp) s).1 = some (e1, tag) → blkOk cfg e1 = true := by
  intro e1 tag he
  obtain ⟨⟨_, _, hn⟩, h⟩ := toDdCall_cntU (scaf_unfit cfg) cfg c as csp s (u := 0) (fun _ => rfl) e1 tag he
  rw [blkOk_iff, h.eq (targetBlind_unfit cfg).1, hookW_unfit cfg hn, (blkOk_iff c).mp hc, (blkOkL_iff as).mp ha]

theorem mapM'_blk (g : Node → M Node) : ∀ (ks : List Node) (s : St), (∀ k ∈ ks, ∀ s, blkOk cfg (g k s).1 = true) →
    blkOkL cfg (mapM' g ks s).1 = true := by
  intro ks
  induction ks with
  | nil => intro s _; rfl
  | cons k ks ih =>
    intro s h
    simp only [mapM', run_bind, run_pure, blkOkL_cons, Bool.and_eq_true]
    exact ⟨h k (by simp) s, ih _ (fun x hx => h x (by simp [hx]))⟩

theorem noOpt_returnStmt {b : Node} (h : noOpt cfg b = true) : noOpt cfg (returnStmt b) = true := by
  rw [noOpt_eq]
  simp [returnStmt, noOptK, kids, h]

theorem Qb_arrowBody {b : Node} (hs : srcOk b = true) (hn : noOpt cfg b = true) : blkOk cfg (.block [returnStmt b] Span.dummy) = true := by
  have h1 : srcOk (.block [returnStmt b] Span.dummy) = true := by
    have hr := srcOk_returnStmt hs
    rw [srcOk_eq]
    simp only [srcNode, srcOkL, kids, dummy_isDummy, if_true, List.all_cons, List.all_nil, Bool.and_true, hr]
    simp [returnStmt]
  have h2 : noOpt cfg (.block [returnStmt b] Span.dummy) = true := by
    rw [noOpt_eq]; simp [noOptK, kids, noOpt_returnStmt hn]
  exact blkOk_src _ h1 h2

/-- every block statement in what the operation visitor returns is a well-formed source block without
    optional chaining -/
theorem visit_blk (cfg : Config) : ∀ (f : Nat) (root : Bool) (n : Node) (s : St), srcOk n = true → noOpt cfg n = true →
    blkOk cfg (visit cfg f root n s).1 = true := by
  intro f
  induction f with
  | zero => intro root n s hs hn; rw [visit_zero]; exact blkOk_src n hs hn
  | succ f ih =>
    intro root n s hs hn
    have hsk := srcOk_kids hs
    have hnk := noOpt_kids hn
    have hks : ∀ r s, blkOkL cfg (mapM' (visit cfg f r) n.kids s).1 = true :=
      fun r s => mapM'_blk _ _ s (fun k hk s' => ih r k s' (hsk k hk) (hnk k hk))
    have gen : ∀ r, isBlockNode n = false → blkOk cfg (mapKidsM mapM' (visit cfg f r) n s).1 = true := by
      intro r hb
      rw [mapKidsM_run]
      exact blkOk_withKids n _ hb (mapM'_length _ _ _) (hks r s)
    cases n with
    | ident nm sp => rw [visit_ident]; exact blkOk_ident nm sp
    | block ss sp => rw [visit_block]; exact blkOk_src _ hs hn
    | optChain o b sp =>
      rw [visit_optChain]
      simp only [run_bind]
      obtain ⟨hc1, _⟩ := toDdCond_id cfg f (.optChain o b sp) s hn
      generalize toDdCond cfg f (.optChain o b sp) s = C at hc1 ⊢
      obtain ⟨⟨e', res⟩, s1⟩ := C
      simp only [Prod.mk.injEq] at hc1
      obtain ⟨rfl, rfl⟩ := hc1
      simp only [Option.getD_none]
      rw [finish_fst, mapKidsM_run]
      exact blkOk_withKids _ _ rfl (mapM'_length _ _ _) (hks false s1)
    | arrow ps b at' sp =>
      rw [visit_arrow]
      simp only [run_pure, toDdArrow]
      have hps : blkOkL cfg ps = true := blkOkL_of (fun k hk => blkOk_src k (hsk k (by simp [kids, hk])) (hnk k (by simp [kids, hk])))
      split
      · exact blkOk_src _ hs hn
      · simp only [Option.getD_some, blkOk_arrow, Bool.and_eq_true]
        exact ⟨hps, Qb_arrowBody (hsk b (by simp [kids])) (hnk b (by simp [kids]))⟩
    | unary op a sp =>
      rw [visit_unary]
      by_cases hd : isDelete op = true
      · rw [if_pos hd]; exact blkOk_src _ hs hn
      · rw [if_neg hd]; exact gen root rfl
    | bin op l r sp =>
      by_cases hp : cfg.plusEnabled = true
      case neg => rw [visit_bin, if_neg hp]; exact gen root rfl
      obtain ⟨l', r', s1, hk1⟩ := mapM'_pair (visit cfg f false) l r s
      rw [visit_bin_run cfg f root hp op l r sp s hk1]
      have hk := hks false s
      simp only [kids, hk1, blkOkL_cons, blkOkL_nil, Bool.and_true, Bool.and_eq_true] at hk
      by_cases hop : (op == "+") = true
      · rw [if_pos hop, finish_fst]; exact toDdBinary_blk cfg op l' r' sp s1 hk.1 hk.2
      · rw [if_neg hop, finish_fst, blkOk_bin, hk.1, hk.2]; rfl
    | assign op l r sp =>
      by_cases hp : cfg.plusEnabled = true
      case neg => rw [visit_assign, if_neg hp]; exact gen root rfl
      obtain ⟨l', r', s1, hk1⟩ := mapM'_pair (visit cfg f false) l r s
      rw [visit_assign_run cfg f root hp op l r sp s hk1]
      have hk := hks false s
      simp only [kids, hk1, blkOkL_cons, blkOkL_nil, Bool.and_true, Bool.and_eq_true] at hk
      by_cases hop : (op == "+=") = true
      · rw [if_pos hop, finish_fst]; exact toDdAssign_blk cfg op l' r' sp s1 (by rw [blkOk_assign, hk.1, hk.2]; rfl)
      · rw [if_neg hop, finish_fst, blkOk_assign, hk.1, hk.2]; rfl
    | tpl es qs sp =>
      by_cases hp : cfg.tplEnabled = true
      case neg => rw [visit_tpl, if_neg hp]; exact gen root rfl
      by_cases hg : (!es.isEmpty && es.all (fun e => !e.isLit)) = true
      case neg => rw [visit_tpl, if_pos hp, if_neg hg]; exact blkOk_src _ hs hn
      rw [visit_tpl_run cfg f root hp es qs sp s hg (ks' := (mapM' (visit cfg f false) (es ++ qs) s).1)
        (s1 := (mapM' (visit cfg f false) (es ++ qs) s).2) rfl, finish_fst]
      exact toDdTpl_blk cfg _ _ sp _ (blkOk_withKids (.tpl es qs sp) _ rfl (mapM'_length _ _ _) (hks false s))
    | call c as sp =>
      obtain ⟨c', as', s1, hk1⟩ := mapM'_cons_ex (visit cfg f false) c as s
      rw [visit_call_run cfg f root c as sp s hk1]
      have hk := hks false s
      simp only [kids, hk1, blkOkL_cons, Bool.and_eq_true] at hk
      by_cases hnc : isNonExprCallee c' = true
      · rw [if_pos hnc, finish_fst, blkOk_call, hk.1, hk.2]; rfl
      · rw [if_neg hnc]
        have h := toDdCall_blk cfg c' as' sp s1 hk.1 hk.2
        generalize toDdCall cfg (.call c' as' sp) s1 = X at h ⊢
        obtain ⟨res, s2⟩ := X
        cases res with
        | none => dsimp only; rw [finish_fst, blkOk_call, hk.1, hk.2]; rfl
        | some et =>
          obtain ⟨e', tag⟩ := et
          dsimp only
          rw [finish_fst]
          exact h e' tag rfl
    | _ => rw [visit_default cfg f root rfl]; exact gen root rfl

end IastModel
