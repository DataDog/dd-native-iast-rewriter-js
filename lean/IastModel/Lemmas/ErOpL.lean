import IastModel.Lemmas.ErOp
namespace IastModel
open Node

/-- what the operand handler guarantees for a list of operands handled left to right -/
def OpErL (cx : Cx) (lo hi : Nat) (es : List Node) (asg args : List Node)
    (R : (List Node × List Node × List Node) × St) (s : St) : Prop :=
  ∃ new more, R.1.2.1 = asg ++ new ∧ R.1.2.2 = args ++ more ∧ AllTA new ∧ InertL more ∧ noBlkL more = true ∧
    s.counter ≤ R.2.counter ∧
    (∀ new'', BRgL new new'' → ∀ σ, cx.ext σ → ∃ Δ, eraseAsg σ new'' = Δ ++ σ ∧ WinU lo hi s.counter R.2.counter Δ) ∧
    (∀ new'' xs'', BRgL new new'' → BRgL R.1.1 xs'' → ∀ σ Δ2, cx.ext σ → Avoid s.counter R.2.counter Δ2 → AvoidP cx.bad Δ2 →
      ∃ Xs Δ3, eraseL (Δ2 ++ eraseAsg σ new'') xs'' = (Xs, Δ3 ++ (Δ2 ++ eraseAsg σ new'')) ∧ SimL Xs es ∧ Win lo hi Δ3)

theorem OpEr.counter_le {cx : Cx} {lo hi : Nat} {e : Node} {asg args : List Node} {R : (Node × List Node × List Node) × St}
    {s : St} (h : OpEr cx lo hi e asg args R s) : s.counter ≤ R.2.counter := by
  obtain ⟨_, _, _, _, _, _, _, c, _⟩ := h; exact c

theorem OpErL.counter_le {cx : Cx} {lo hi : Nat} {es asg args : List Node} {R : (List Node × List Node × List Node) × St}
    {s : St} (h : OpErL cx lo hi es asg args R s) : s.counter ≤ R.2.counter := by
  obtain ⟨_, _, _, _, _, _, _, c, _⟩ := h; exact c

theorem opErL_nil (cx : Cx) (lo hi : Nat) (asg args : List Node) (s : St) :
    OpErL cx lo hi [] asg args (([], asg, args), s) s := by
  refine ⟨[], [], by simp, by simp, AllTA.nil, InertL.nil, rfl, Nat.le_refl _, ?_, ?_⟩
  · intro new'' hn σ _
    rw [BRgL.nil_inv hn]
    exact ⟨[], rfl, WinU.nil _ _ _ _⟩
  · intro new'' xs'' hn hx σ Δ2 _ _ _
    rw [BRgL.nil_inv hn, BRgL.nil_inv hx]
    exact ⟨[], [], by simp [eraseL, eraseAsg], rfl, Win.nil _ _⟩

theorem opErL_cons {cx : Cx} {lo hi : Nat} {e x : Node} {es xs asg args asg1 args1 asg2 args2 : List Node} {s s1 s2 : St}
    (hw : HypW cx hi s)
    (h1 : OpEr cx lo hi e asg args ((x, asg1, args1), s1) s)
    (h2 : OpErL cx lo hi es asg1 args1 ((xs, asg2, args2), s2) s1) :
    OpErL cx lo hi (e :: es) asg args ((x :: xs, asg2, args2), s2) s := by
  obtain ⟨new1, more1, ea1, eg1, ta1, in1, nb1, c1, A1, B1⟩ := h1
  obtain ⟨new2, more2, ea2, eg2, ta2, in2, nb2, c2, A2, B2⟩ := h2
  dsimp only at ea1 eg1 c1 A1 B1 ea2 eg2 c2 A2 B2
  have hw1 : HypW cx hi s1 := hw.mono c1
  refine ⟨new1 ++ new2, more1 ++ more2, by dsimp only; rw [ea2, ea1, List.append_assoc],
    by dsimp only; rw [eg2, eg1, List.append_assoc], ta1.append ta2, in1.append in2, by simp [nb1, nb2],
    Nat.le_trans c1 c2, ?_, ?_⟩
  · intro new'' hn σ hσ
    obtain ⟨n1, n2, rfl, hn1, hn2⟩ := BRgL.append_inv hn
    dsimp only
    obtain ⟨Δ1, e1, w1⟩ := A1 n1 hn1 σ hσ
    have hσ1 : cx.ext (eraseAsg σ n1) := by rw [e1]; exact Cx.ext_append hσ (w1.avoidCx hw)
    obtain ⟨Δ2', e2, w2⟩ := A2 n2 hn2 _ hσ1
    refine ⟨Δ2' ++ Δ1, by rw [eraseAsg_append, e2, e1, List.append_assoc], ?_⟩
    exact (w2.mono c1 (Nat.le_refl _)).append (w1.mono (Nat.le_refl _) c2)
  · intro new'' xs'' hn hx σ Δ2 hσ hav hac
    obtain ⟨n1, n2, rfl, hn1, hn2⟩ := BRgL.append_inv hn
    obtain ⟨x'', xs2, rfl, hx1, hx2⟩ := BRgL.cons_inv hx
    dsimp only at hav ⊢
    obtain ⟨Δ1, e1, w1⟩ := A1 n1 hn1 σ hσ
    have hσ1 : cx.ext (eraseAsg σ n1) := by rw [e1]; exact Cx.ext_append hσ (w1.avoidCx hw)
    obtain ⟨Δ2', e2, w2⟩ := A2 n2 hn2 _ hσ1
    -- the head, under the later bindings
    have hA : Avoid s.counter s1.counter (Δ2 ++ Δ2') :=
      (hav.sub (Nat.le_refl _) c2).append (w2.avoid hw.h3 (Nat.le_refl _))
    have hC : AvoidP cx.bad (Δ2 ++ Δ2') := hac.append (w2.avoidCx hw1)
    obtain ⟨X, Δ3, eX, sX, wX⟩ := B1 n1 x'' hn1 hx1 σ (Δ2 ++ Δ2') hσ hA hC
    -- the tail, under what the head bound
    have hA2 : Avoid s1.counter s2.counter (Δ3 ++ Δ2) :=
      (wX.avoid hw1.h3).append (hav.sub c1 (Nat.le_refl _))
    have hC2 : AvoidP cx.bad (Δ3 ++ Δ2) := (wX.avoidP hw.h1).append hac
    obtain ⟨Xs, Δ3', eXs, sXs, wXs⟩ := B2 n2 xs2 hn2 hx2 _ (Δ3 ++ Δ2) hσ1 hA2 hC2
    have envEq : Δ2 ++ eraseAsg σ (n1 ++ n2) = (Δ2 ++ Δ2') ++ eraseAsg σ n1 := by
      rw [eraseAsg_append, e2, List.append_assoc]
    refine ⟨X :: Xs, Δ3' ++ Δ3, ?_, ?_, wXs.append wX⟩
    · rw [envEq]
      simp only [eraseL]
      rw [eX]
      simp only
      have : Δ3 ++ (Δ2 ++ Δ2' ++ eraseAsg σ n1) = Δ3 ++ Δ2 ++ eraseAsg (eraseAsg σ n1) n2 := by
        rw [e2]; simp [List.append_assoc]
      rw [this, eXs]
      simp [List.append_assoc, e2]
    · simp only [SimL, stripL]
      rw [sX.1]
      have : stripL Xs = stripL es := sXs
      rw [this]

/-- operands handled left to right by `g`, for any `step` with the two equations of such a loop -/
theorem opErL_list {cx : Cx} {lo hi : Nat} {Q : Node → Node → Prop}
    {g : Node → List Node → List Node → M (Node × List Node × List Node)}
    {step : List Node → List Node → List Node → M (List Node × List Node × List Node)}
    (hnil : ∀ asg args s, step [] asg args s = (([], asg, args), s))
    (hcons : ∀ x xs asg args s, step (x :: xs) asg args s =
      let R := g x asg args s; let T := step xs R.1.2.1 R.1.2.2 R.2; ((R.1.1 :: T.1.1, T.1.2), T.2))
    (hg : ∀ x' x asg args s, HypW cx hi s → Q x' x → OpEr cx lo hi x asg args (g x' asg args s) s)
    {xs' xs : List Node} (hf : Forall2 Q xs' xs) :
    ∀ asg args s, HypW cx hi s → OpErL cx lo hi xs asg args (step xs' asg args s) s := by
  refine Forall2.ind (P := fun xs' xs => ∀ asg args s, HypW cx hi s → OpErL cx lo hi xs asg args (step xs' asg args s) s)
    ?_ ?_ hf
  · intro asg args s _; rw [hnil]; exact opErL_nil cx lo hi asg args s
  · intro x' x xs' xs hq _ ih asg args s hw
    rw [hcons]
    dsimp only
    have h1 := hg x' x asg args s hw hq
    generalize g x' asg args s = R1 at h1 ⊢
    obtain ⟨⟨y, asg1, args1⟩, s1⟩ := R1
    have h2 := ih asg1 args1 s1 (hw.mono h1.counter_le)
    generalize step xs' asg1 args1 s1 = R2 at h2 ⊢
    obtain ⟨⟨ys, asg2, args2⟩, s2⟩ := R2
    exact opErL_cons hw h1 h2

/-- wrapping the operand back into its argument node -/
theorem opEr_arg_wrap {cx : Cx} {lo hi : Nat} {e x : Node} {asg args asg1 args1 : List Node} {s s1 : St}
    (spread s2 : Option Span) (hs : s2.isSome = spread.isSome)
    (h : OpEr cx lo hi e asg args ((x, asg1, args1), s1) s) :
    OpEr cx lo hi (.arg s2 e) asg args ((.arg spread x, asg1, args1), s1) s := by
  obtain ⟨new1, more1, ea1, eg1, ta1, in1, nb1, c1, A1, B1⟩ := h
  refine ⟨new1, more1, ea1, eg1, ta1, in1, nb1, c1, A1, ?_⟩
  intro new'' x'' hn hx σ Δ2 hσ hav hac
  dsimp only at hx
  obtain ⟨x2, rfl, hx2⟩ := hx.arg_inv
  obtain ⟨X, Δ3, eX, sX, wX⟩ := B1 new'' x2 hn hx2 σ Δ2 hσ hav hac
  exact ⟨.arg spread X, Δ3, by simp only [erase, eX], ESim_arg.mpr ⟨hs.symm, sX⟩, wX⟩

theorem Er_arg_inv {cx : Cx} {lo hi : Nat} {s : Option Span} {e' a : Node} (h : Er cx lo hi (.arg s e') a) :
    ∃ s2 e, a = .arg s2 e ∧ s2.isSome = s.isSome ∧ Er cx lo hi e' e := by
  obtain ⟨X, Δ, eX, sX, _⟩ := h _ (BRg.refl _) cx.base cx.ext_base
  simp only [erase] at eX
  have hX : X = .arg s (erase cx.base e').1 := by
    have := congrArg Prod.fst eX; simpa using this.symm
  have hs := sX.1
  rw [hX] at hs sX
  simp only [strip] at hs
  obtain ⟨s2, e, rfl, -⟩ := strip_eq_arg hs.symm
  refine ⟨s2, e, rfl, (ESim_arg.mp sX).1.symm, ?_⟩
  intro e'' hb σ hσ
  obtain ⟨Y, Δ', eY, sY, wY⟩ := h _ (BRg.arg_mk s hb) σ hσ
  simp only [erase] at eY
  refine ⟨(erase σ e'').1, Δ', ?_, ?_, wY⟩
  · have := congrArg Prod.snd eY
    simp only at this
    exact Prod.ext rfl this
  · have hY : Y = .arg s (erase σ e'').1 := by
      have := congrArg Prod.fst eY; simpa using this.symm
    rw [hY] at sY
    exact (ESim_arg.mp sY).2

theorem replaceArgNoExpand_Er (cx : Cx) (lo hi : Nat) (a' a : Node) (mode : IdentMode) (asg args : List Node) (sp : Span)
    (s : St) (hw : HypW cx hi s) (hE : Er cx lo hi a' a) :
    OpEr cx lo hi a asg args (replaceArgNoExpand a' mode asg args sp s) s := by
  cases a' with
  | arg spread e' =>
    obtain ⟨s2, e, rfl, hs, hE'⟩ := Er_arg_inv hE
    simp only [replaceArgNoExpand, run_bind, run_pure]
    have := replaceExprNoExpand_Er cx lo hi e' e mode asg args sp (if spread.isSome then IdentKind.spread else IdentKind.expr) s hw hE'
    generalize replaceExprNoExpand e' mode asg args sp (if spread.isSome then IdentKind.spread else IdentKind.expr) s = R at this
    obtain ⟨⟨x, asg1, args1⟩, s1⟩ := R
    exact opEr_arg_wrap spread s2 hs this
  | _ =>
    simp only [replaceArgNoExpand, run_pure]
    have := opEr_inplace cx lo hi _ a asg args [] s hE InertL.nil rfl
    simpa using this

theorem inert_voidZero : Inert voidZero := by
  intro σ; simp [voidZero, erase]

theorem replaceElem_Er (cx : Cx) (lo hi : Nat) (a' a : Node) (mode : IdentMode) (asg args : List Node) (sp : Span)
    (s : St) (hw : HypW cx hi s) (hE : Er cx lo hi a' a) :
    OpEr cx lo hi a asg args (replaceElem a' mode asg args sp s) s := by
  cases a' with
  | arg spread e' =>
    simp only [replaceElem]
    exact replaceArgNoExpand_Er cx lo hi _ a mode asg args sp s hw hE
  | _ =>
    simp only [replaceElem, run_pure]
    exact opEr_inplace cx lo hi _ a asg args _ s hE (inertL_single (inert_arg inert_voidZero))
      (by simp only [noBlkL_cons, noBlkL_nil, Bool.and_true]; exact noBlk_argE noBlk_voidZero)

theorem replaceElems_Er (cx : Cx) (lo hi : Nat) (mode : IdentMode) (sp : Span) (xs' xs asg args : List Node) (s : St)
    (hw : HypW cx hi s) (hf : Forall2 (Er cx lo hi) xs' xs) :
    OpErL cx lo hi xs asg args (replaceElems mode sp xs' asg args s) s :=
  opErL_list (g := fun x asg args => replaceElem x mode asg args sp) (fun _ _ _ => rfl) (fun _ _ _ _ _ => rfl)
    (fun x' x asg args s hw hE => replaceElem_Er cx lo hi x' x mode asg args sp s hw hE) hf asg args s hw

/-- the elements of an array literal operand are themselves erasable, one by one -/
def DeepEr (cx : Cx) (lo hi : Nat) (a' a : Node) : Prop :=
  ∀ elems' asp, argInner a' = .array elems' asp →
    ∃ es, argInner a = .array es asp ∧ asp.isDummy = false ∧ Forall2 (Er cx lo hi) elems' es

theorem eraseL_array (σ : Env) (es : List Node) (sp : Span) :
    erase σ (.array es sp) = (.array (eraseL σ es).1 sp, (eraseL σ es).2) := by
  simp only [erase]

theorem replaceExpr_Er (cx : Cx) (lo hi : Nat) (e' e : Node) (mode : IdentMode) (asg args : List Node) (sp : Span)
    (kind : IdentKind) (expand : Bool) (s : St) (hw : HypW cx hi s) (hE : Er cx lo hi e' e) (hD : DeepEr cx lo hi e' e) :
    OpEr cx lo hi e asg args (replaceExpr e' mode asg args sp kind expand s) s := by
  unfold replaceExpr
  split
  · rename_i elems asp
    obtain ⟨es, he, hnd, hf⟩ := hD elems asp rfl
    -- the source is that array
    have hearr : e = .array es asp := by
      obtain ⟨X, Δ, eX, sX, _⟩ := hE _ (BRg.refl _) cx.base cx.ext_base
      rw [eraseL_array] at eX
      have hX : X = .array (eraseL cx.base elems).1 asp := by
        have := congrArg Prod.fst eX; simpa using this.symm
      have hs := sX.1
      rw [hX] at hs
      cases e <;> simp [strip] at hs
      simpa [argInner] using he
    subst hearr
    simp only [run_bind, run_pure]
    have h := replaceElems_Er cx lo hi mode sp elems es asg args s hw hf
    generalize replaceElems mode sp elems asg args s = R at h
    obtain ⟨⟨ys, asg1, args1⟩, s1⟩ := R
    obtain ⟨new1, more1, ea1, eg1, ta1, in1, nb1, c1, A1, B1⟩ := h
    refine ⟨new1, more1, ea1, eg1, ta1, in1, nb1, c1, A1, ?_⟩
    intro new'' x'' hn hx σ Δ2 hσ hav hac
    dsimp only at hx
    obtain ⟨ys'', rfl, hys⟩ := hx.array_inv
    obtain ⟨Xs, Δ3, eX, sX, wX⟩ := B1 new'' ys'' hn hys σ Δ2 hσ hav hac
    try dsimp only at eX ⊢
    refine ⟨.array Xs asp, Δ3, by rw [eraseL_array, eX], ?_, wX⟩
    refine ⟨?_, Or.inl rfl, ?_⟩
    · simp only [strip]; rw [show stripL Xs = stripL es from sX]
    · simp only [noSp, unSpread]
      split
      · rename_i heq
        simp only [array.injEq] at heq
        obtain ⟨h1, h2⟩ := heq
        subst h1 h2
        simp [hnd]
      · rfl
  · exact replaceExprNoExpand_Er cx lo hi e' e mode asg args sp kind s hw hE

theorem DeepEr_arg_inv {cx : Cx} {lo hi : Nat} {s s2 : Option Span} {e' e : Node}
    (h : DeepEr cx lo hi (.arg s e') (.arg s2 e)) : DeepEr cx lo hi e' e := by
  intro elems' asp he
  exact h elems' asp (by simpa [argInner] using he)

theorem replaceArg_Er (cx : Cx) (lo hi : Nat) (a' a : Node) (mode : IdentMode) (asg args : List Node) (sp : Span)
    (expand : Bool) (s : St) (hw : HypW cx hi s) (hE : Er cx lo hi a' a) (hD : DeepEr cx lo hi a' a) :
    OpEr cx lo hi a asg args (replaceArg a' mode asg args sp expand s) s := by
  cases a' with
  | arg spread e' =>
    obtain ⟨s2, e, rfl, hs, hE'⟩ := Er_arg_inv hE
    simp only [replaceArg, run_bind, run_pure]
    have := replaceExpr_Er cx lo hi e' e mode asg args sp (if spread.isSome then IdentKind.spread else IdentKind.expr) expand s hw hE'
      (DeepEr_arg_inv hD)
    generalize replaceExpr e' mode asg args sp (if spread.isSome then IdentKind.spread else IdentKind.expr) expand s = R at this
    obtain ⟨⟨x, asg1, args1⟩, s1⟩ := R
    exact opEr_arg_wrap spread s2 hs this
  | _ =>
    simp only [replaceArg, run_pure]
    have := opEr_inplace cx lo hi _ a asg args [] s hE InertL.nil rfl
    simpa using this

theorem replaceArgs_Er (cx : Cx) (lo hi : Nat) (mode : IdentMode) (sp : Span) (expand : Bool) (xs' xs asg args : List Node)
    (s : St) (hw : HypW cx hi s) (hf : Forall2 (fun a' a => Er cx lo hi a' a ∧ DeepEr cx lo hi a' a) xs' xs) :
    OpErL cx lo hi xs asg args (replaceArgs mode sp expand xs' asg args s) s :=
  opErL_list (g := fun x asg args => replaceArg x mode asg args sp expand) (fun _ _ _ => rfl) (fun _ _ _ _ _ => rfl)
    (fun x' x asg args s hw h => replaceArg_Er cx lo hi x' x mode asg args sp expand s hw h.1 h.2) hf asg args s hw

theorem replaceExpr_noExpand (e : Node) (mode : IdentMode) (asg args : List Node) (sp : Span) (kind : IdentKind) (s : St) :
    replaceExpr e mode asg args sp kind false s = replaceExprNoExpand e mode asg args sp kind s := by
  cases e <;> rfl

theorem erase_paren_tight (σ : Env) (e : Node) (sp : Span) (h : (e.span == sp) = true) :
    erase σ (.paren e sp) = erase σ e := by
  simp only [erase, h, if_true]

/-- parentheses at the position of what they hold are removed again by `erase` -/
theorem Er.tightParen {cx : Cx} {lo hi : Nat} {x' x : Node} (h : Er cx lo hi x' x) : Er cx lo hi (.paren x' x'.span) x := by
  intro e'' hb σ hσ
  obtain ⟨i'', rfl, hi⟩ := hb.paren_inv
  obtain ⟨X, Δ, eX, sX, wX⟩ := h i'' hi σ hσ
  exact ⟨X, Δ, by rw [erase_paren_tight _ _ _ (by rw [BRg.span _ _ hi]; exact beq_self_eq_true _)]; exact eX, sX, wX⟩

theorem tplOperand_Er {cx : Cx} {lo hi : Nat} {x' x : Node} (h : Er cx lo hi x' x) : Er cx lo hi (tplOperand x') x := by
  unfold tplOperand
  split
  · exact h.tightParen
  · exact h

theorem replaceTplExprs_Er (cx : Cx) (lo hi : Nat) (xs' xs asg args : List Node) (s : St) (hw : HypW cx hi s)
    (hf : Forall2 (Er cx lo hi) xs' xs) : OpErL cx lo hi xs asg args (replaceTplExprs xs' asg args s) s :=
  opErL_list (g := fun x asg args => replaceExpr (tplOperand x) .replace asg args x.span .expr false)
    (fun _ _ _ => rfl) (fun _ _ _ _ _ => rfl)
    (fun x' x asg args s hw hE => by
      rw [replaceExpr_noExpand]
      exact replaceExprNoExpand_Er cx lo hi (tplOperand x') x .replace asg args x'.span .expr s hw (tplOperand_Er hE))
    hf asg args s hw

end IastModel
