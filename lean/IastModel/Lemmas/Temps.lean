import IastModel.Lemmas.BlockSpec
namespace IastModel
open Node

def isTempIdent : Node → Bool
  | .ident (.temp _) _ => true
  | _ => false

/-- number of injected temporaries occurring in a tree (nested blocks included) -/
def nt (n : Node) : Nat := Node.count isTempIdent n
def ntL (l : List Node) : Nat := (l.map nt).sum

theorem nt_eq (n : Node) : nt n = (if isTempIdent n then 1 else 0) + ntL n.kids := by
  unfold ntL
  show Node.count isTempIdent n = _
  rw [Node.count_eq]
  rfl

@[simp] theorem ntL_nil : ntL [] = 0 := rfl
@[simp] theorem ntL_cons (x : Node) (xs : List Node) : ntL (x :: xs) = nt x + ntL xs := by simp [ntL]
@[simp] theorem ntL_append (xs ys : List Node) : ntL (xs ++ ys) = ntL xs + ntL ys := by simp [ntL, List.sum_append]

theorem ntL_eq_zero : ∀ (l : List Node), ntL l = 0 → ∀ k ∈ l, nt k = 0 := by
  intro l
  induction l with
  | nil => intro _ k hk; cases hk
  | cons x xs ih =>
    intro h k hk
    simp only [ntL_cons] at h
    rcases List.mem_cons.mp hk with rfl | hk
    · omega
    · exact ih (by omega) k hk

theorem nt_of_not_temp {n : Node} (h : isTempIdent n = false) : nt n = ntL n.kids := by
  rw [nt_eq, h]; exact Nat.zero_add _

/-- the local condition: an injected temporary must be one of `σ` -/
def tempIn (σ : List Nat) : Node → Bool
  | .ident (.temp k) _ => σ.contains k
  | _ => true

def isArrowNode : Node → Bool
  | .arrow .. => true
  | _ => false

/-- nodes the operation visitor does not look into: block statements and arrow functions -/
def isClosed (n : Node) : Bool := isBlockNode n || isArrowNode n

/-- every temporary in the own region of the tree (nested blocks and arrow functions excluded) is one
    of `σ`, and the nested blocks and arrow functions contain no temporary at all (they have not been
    entered yet) -/
def tgood (σ : List Nat) (n : Node) : Bool :=
  if isClosed n then nt n == 0
  else tempIn σ n && n.kids.attach.all fun k => tgood σ k.1
termination_by sizeOf n
decreasing_by exact Node.sizeOf_lt_of_mem_kids k.2

def tgoodL (σ : List Nat) (l : List Node) : Bool := l.all (tgood σ)

theorem tgood_eq (σ : List Nat) (n : Node) :
    tgood σ n = if isClosed n then nt n == 0 else tempIn σ n && tgoodL σ n.kids := by
  rw [tgood]
  split
  · rfl
  · rw [Node.attach_all_eq]; rfl

theorem tgood_closed {σ} {n : Node} (hb : isClosed n = true) : tgood σ n = (nt n == 0) := by
  rw [tgood_eq, if_pos hb]

theorem tgood_open {σ} {n : Node} (hb : isClosed n = false) : tgood σ n = (tempIn σ n && tgoodL σ n.kids) := by
  rw [tgood_eq, hb]; rfl

@[simp] theorem tgoodL_nil (σ) : tgoodL σ [] = true := rfl
@[simp] theorem tgoodL_cons (σ) (x : Node) (xs : List Node) : tgoodL σ (x :: xs) = (tgood σ x && tgoodL σ xs) := by
  simp [tgoodL]
@[simp] theorem tgoodL_append (σ) (xs ys : List Node) : tgoodL σ (xs ++ ys) = (tgoodL σ xs && tgoodL σ ys) := by
  simp [tgoodL, List.all_append]

theorem tempIn_of_not_temp (σ : List Nat) (n : Node) (ht : isTempIdent n = false) : tempIn σ n = true := by
  cases n with
  | ident nm sp =>
    cases nm with
    | user x => rfl
    | temp k => simp [isTempIdent] at ht
  | _ => rfl

theorem tgood_generic (σ) (n : Node) (hb : isClosed n = false) (ht : isTempIdent n = false) :
    tgood σ n = tgoodL σ n.kids := by
  rw [tgood_open hb, tempIn_of_not_temp σ n ht, Bool.true_and]

@[simp] theorem tgood_lit (σ) (k v r : String) (sp : Span) : tgood σ (.lit k v r sp) = true := by
  rw [tgood_generic _ _ rfl rfl]; simp [kids]
@[simp] theorem tgood_pname (σ) (n : String) (sp : Span) : tgood σ (.pname n sp) = true := by
  rw [tgood_generic _ _ rfl rfl]; simp [kids]
@[simp] theorem tgood_user (σ) (x : String) (sp : Span) : tgood σ (.ident (.user x) sp) = true := by
  rw [tgood_generic _ _ rfl rfl]; simp [kids]
@[simp] theorem tgood_temp (σ) (k : Nat) (sp : Span) : tgood σ (.ident (.temp k) sp) = σ.contains k := by
  rw [tgood_open rfl]; simp [tempIn, kids]
@[simp] theorem tgood_atom (σ) (s : String) : tgood σ (.atom s) = true := by
  rw [tgood_generic _ _ rfl rfl]; simp [kids]
@[simp] theorem tgood_bin (σ) (op : String) (l r : Node) (sp : Span) : tgood σ (.bin op l r sp) = (tgood σ l && tgood σ r) := by
  rw [tgood_generic _ _ rfl rfl]; simp [kids]
@[simp] theorem tgood_assign (σ) (op : String) (l r : Node) (sp : Span) : tgood σ (.assign op l r sp) = (tgood σ l && tgood σ r) := by
  rw [tgood_generic _ _ rfl rfl]; simp [kids]
@[simp] theorem tgood_member (σ) (o p : Node) (sp : Span) : tgood σ (.member o p sp) = (tgood σ o && tgood σ p) := by
  rw [tgood_generic _ _ rfl rfl]; simp [kids]
@[simp] theorem tgood_call (σ) (c : Node) (as : List Node) (sp : Span) : tgood σ (.call c as sp) = (tgood σ c && tgoodL σ as) := by
  rw [tgood_generic _ _ rfl rfl]; simp [kids]
@[simp] theorem tgood_arg (σ) (s : Option Span) (e : Node) : tgood σ (.arg s e) = tgood σ e := by
  rw [tgood_generic _ _ rfl rfl]; simp [kids]
@[simp] theorem tgood_paren (σ) (e : Node) (sp : Span) : tgood σ (.paren e sp) = tgood σ e := by
  rw [tgood_generic _ _ rfl rfl]; simp [kids]
@[simp] theorem tgood_seq (σ) (es : List Node) (sp : Span) : tgood σ (.seq es sp) = tgoodL σ es := by
  rw [tgood_generic _ _ rfl rfl]; simp [kids]
@[simp] theorem tgood_array (σ) (es : List Node) (sp : Span) : tgood σ (.array es sp) = tgoodL σ es := by
  rw [tgood_generic _ _ rfl rfl]; simp [kids]
@[simp] theorem tgood_tpl (σ) (es qs : List Node) (sp : Span) : tgood σ (.tpl es qs sp) = (tgoodL σ es && tgoodL σ qs) := by
  rw [tgood_generic _ _ rfl rfl]; simp [kids]
@[simp] theorem tgood_cond (σ) (t c a : Node) (sp : Span) : tgood σ (.cond t c a sp) = (tgood σ t && tgood σ c && tgood σ a) := by
  rw [tgood_generic _ _ rfl rfl]; simp [kids, Bool.and_assoc]
@[simp] theorem tgood_unary (σ) (op : String) (a : Node) (sp : Span) : tgood σ (.unary op a sp) = tgood σ a := by
  rw [tgood_generic _ _ rfl rfl]; simp [kids]
@[simp] theorem tgood_other (σ) (k : String) (sp : Span) (ns' : List String) (vs : List Node) : tgood σ (.other k sp ns' vs) = tgoodL σ vs := by
  rw [tgood_generic _ _ rfl rfl]; simp [kids]
@[simp] theorem tgood_arr (σ) (vs : List Node) : tgood σ (.arr vs) = tgoodL σ vs := by
  rw [tgood_generic _ _ rfl rfl]; simp [kids]
@[simp] theorem tgood_optChain (σ) (o : Bool) (b : Node) (sp : Span) : tgood σ (.optChain o b sp) = tgood σ b := by
  rw [tgood_generic _ _ rfl rfl]; simp [kids]
@[simp] theorem tgood_optCall (σ) (c : Node) (as : List Node) (sp : Span) : tgood σ (.optCall c as sp) = (tgood σ c && tgoodL σ as) := by
  rw [tgood_generic _ _ rfl rfl]; simp [kids]
theorem tgood_arrow (σ) (ps : List Node) (b : Node) (a : String) (sp : Span) : tgood σ (.arrow ps b a sp) = (ntL ps + nt b == 0) := by
  rw [tgood_closed rfl, nt_of_not_temp rfl]; simp [kids]
theorem tgood_block (σ) (ss : List Node) (sp : Span) : tgood σ (.block ss sp) = (ntL ss == 0) := by
  rw [tgood_closed rfl, nt_of_not_temp rfl]; rfl

theorem tgoodL_iff {σ} {l : List Node} : tgoodL σ l = true ↔ ∀ k ∈ l, tgood σ k = true := by
  unfold tgoodL; exact List.all_eq_true

@[simp] theorem tgood_tempIdent (σ) (k : Nat) : tgood σ (tempIdent k) = σ.contains k := tgood_temp σ k _

theorem isTempIdent_of_nt0 {n : Node} (h : nt n = 0) : isTempIdent n = false := by
  rw [nt_eq] at h
  cases hh : isTempIdent n
  · rfl
  · rw [hh, if_pos rfl] at h; omega

theorem ntL_kids_of_nt0 {n : Node} (h : nt n = 0) : ntL n.kids = 0 := by
  rw [nt_of_not_temp (isTempIdent_of_nt0 h)] at h; exact h

/-- a tree without temporaries is good for every `σ` -/
theorem tgood_of_nt0 (σ) : ∀ n : Node, nt n = 0 → tgood σ n = true := by
  apply Node.ind
  intro n ih h0
  by_cases hb : isClosed n = true
  · rw [tgood_closed hb]; exact beq_iff_eq.mpr h0
  · rw [tgood_generic σ n (Bool.not_eq_true _ ▸ hb) (isTempIdent_of_nt0 h0)]
    exact tgoodL_iff.mpr fun k hk => ih k hk (ntL_eq_zero _ (ntL_kids_of_nt0 h0) k hk)

theorem tgoodL_of_nt0 (σ) (l : List Node) (h : ntL l = 0) : tgoodL σ l = true :=
  tgoodL_iff.mpr fun k hk => tgood_of_nt0 σ k (ntL_eq_zero l h k hk)

/-- the children of a good node are good: those of a closed node contain no temporary -/
theorem tgood_kids {σ} {n : Node} (h : tgood σ n = true) : tgoodL σ n.kids = true := by
  by_cases hb : isClosed n = true
  · rw [tgood_closed hb, beq_iff_eq] at h
    exact tgoodL_of_nt0 σ _ (ntL_kids_of_nt0 h)
  · rw [tgood_open (Bool.not_eq_true _ ▸ hb), Bool.and_eq_true] at h
    exact h.2

theorem tgood_tempIn {σ} {n : Node} (h : tgood σ n = true) : tempIn σ n = true := by
  by_cases hb : isClosed n = true
  · rw [tgood_closed hb, beq_iff_eq] at h
    exact tempIn_of_not_temp σ n (isTempIdent_of_nt0 h)
  · rw [tgood_open (Bool.not_eq_true _ ▸ hb), Bool.and_eq_true] at h
    exact h.1

theorem tempIn_mono {σ σ' : List Nat} (hs : ∀ k ∈ σ, k ∈ σ') (n : Node) (h : tempIn σ n = true) : tempIn σ' n = true := by
  cases n with
  | ident nm sp =>
    cases nm with
    | user x => rfl
    | temp k => simp only [tempIn, List.contains_iff_mem] at h ⊢; exact hs k h
  | _ => rfl

/-- more declared temporaries never hurt -/
theorem tgood_mono {σ σ' : List Nat} (hs : ∀ k ∈ σ, k ∈ σ') : ∀ n : Node, tgood σ n = true → tgood σ' n = true := by
  apply Node.ind
  intro n ih h
  by_cases hb : isClosed n = true
  · rw [tgood_closed hb] at h ⊢; exact h
  · rw [Bool.not_eq_true] at hb
    rw [tgood_open hb, Bool.and_eq_true] at h ⊢
    exact ⟨tempIn_mono hs n h.1, tgoodL_iff.mpr fun k hk => ih k hk (tgoodL_iff.mp h.2 k hk)⟩

theorem tgoodL_mono {σ σ' : List Nat} (hs : ∀ k ∈ σ, k ∈ σ') (l : List Node) (h : tgoodL σ l = true) : tgoodL σ' l = true :=
  tgoodL_iff.mpr fun k hk => tgood_mono hs k (tgoodL_iff.mp h k hk)

theorem isTempIdent_withKids (n : Node) (ks : List Node) : isTempIdent (n.withKids ks) = isTempIdent n := by
  cases n <;> rfl

theorem isClosed_withKids (n : Node) (ks : List Node) : isClosed (n.withKids ks) = isClosed n := by
  cases n <;> rfl

theorem tempIn_withKids (σ) (n : Node) (ks : List Node) : tempIn σ (n.withKids ks) = tempIn σ n := by
  cases n <;> rfl

theorem tgood_withKids {σ σ' : List Nat} (hs : ∀ k ∈ σ, k ∈ σ') {n : Node} {ks : List Node} (hb : isClosed n = false)
    (h : tgood σ n = true) (hk : tgoodL σ' ks = true) (hl : ks.length = n.kids.length) :
    tgood σ' (n.withKids ks) = true := by
  rw [tgood_open hb, Bool.and_eq_true] at h
  rw [tgood_open (isClosed_withKids n ks ▸ hb), tempIn_withKids, Node.kids_withKids n ks hl, Bool.and_eq_true]
  exact ⟨tempIn_mono hs n h.1, hk⟩

end IastModel
