import IastModel.Rewriter.Visitor
import IastModel.Lemmas.CallCases
/-
  Shape lemmas: whatever a transform returns as a replacement is built by `ddParen`
  (a hook call, or the parenthesised sequence ending in one).
-/
namespace IastModel

/-- `e` was built by `get_dd_paren_expr` -/
def IsDd (e : Node) : Prop := ∃ x args asg m sp, e = ddParen x args asg m sp

theorem toDdBinary_isDd (cfg : Config) (e : Node) (s : St) (r : Node)
    (h : (toDdBinary cfg e s).1 = some r) : IsDd r := by
  unfold toDdBinary at h
  split at h
  · simp only [run_bind] at h
    split at h
    · cases h; exact ⟨_, _, _, _, _, rfl⟩
    · cases h
  · cases h

theorem toDdAssign_shape (cfg : Config) (e : Node) (s : St) (r : Node)
    (h : (toDdAssign cfg e s).1 = some r) : ∃ t d sp, r = .assign "=" t d sp ∧ IsDd d := by
  unfold toDdAssign at h
  split at h
  · split at h
    · cases h
    · simp only [run_bind] at h
      generalize hX : (toDdBinary _ _ _) = X at h
      obtain ⟨res, s2⟩ := X
      cases res with
      | none => cases h
      | some e' =>
        cases h
        exact ⟨_, _, _, rfl, toDdBinary_isDd _ _ _ _ (congrArg Prod.fst hX)⟩
  · cases h

theorem toDdTpl_isDd (cfg : Config) (e : Node) (s : St) (r : Node)
    (h : (toDdTpl cfg e s).1 = some r) : IsDd r := by
  unfold toDdTpl at h
  split at h
  · cases h; exact ⟨_, _, _, _, _, rfl⟩
  · cases h

/-- whatever `m` returns from `s` as a replacement was built by `ddParen` -/
def IsDdRun (m : M (Option (Node × String))) (s : St) : Prop := ∀ r t, (m s).1 = some (r, t) → IsDd r

theorem isDdRun_none (s : St) : IsDdRun (pure none) s := nofun

theorem replaceCallWithMember_isDd {cfg : Config} {expr : Node} {method : String} {msp : Span}
    {callee : Node} {cargs : List Node} {csp : Span} {mo : Option Node} {ca : Option String} {s : St} :
    IsDdRun (replaceCallWithMember cfg expr method msp callee cargs csp mo ca) s := by
  intro r t h
  unfold replaceCallWithMember at h
  cases hg : cfg.get method <;> simp only [hg] at h
  · cases h
  · cases h; exact ⟨_, _, _, _, _, rfl⟩

theorem replaceCallSpreadWithMember_isDd {cfg : Config} {method : String}
    {callee : Node} {cargs : List Node} {csp : Span} {m : Node} {ca : String} {s : St} :
    IsDdRun (replaceCallSpreadWithMember cfg method callee cargs csp m ca) s := by
  intro r t h
  unfold replaceCallSpreadWithMember at h
  cases hg : cfg.get method <;> simp only [hg, run_bind] at h
  · cases h
  · generalize getIdentUsed m [] [] csp IdentKind.expr s = X at h
    obtain ⟨⟨id, asg1, args1⟩, s1⟩ := X
    cases id with
    | none => cases h
    | some n => cases h; exact ⟨_, _, _, _, _, rfl⟩

theorem replaceCallWithoutCallee_isDd {cfg : Config} {name : Name} {isp : Span} {callee : Node}
    {cargs : List Node} {csp : Span} {s : St} :
    IsDdRun (replaceCallWithoutCallee cfg name isp callee cargs csp) s := by
  intro r t h
  unfold replaceCallWithoutCallee at h
  split at h
  · cases h
  · rename_i method
    cases hg : cfg.get method <;> simp only [hg] at h
    · cases h
    · split at h
      · cases h; exact ⟨_, _, _, _, _, rfl⟩
      · cases h

theorem replacePrototypeCallOrApply_isDd {cfg : Config} {cargs : List Node} {csp : Span} {callee member : Node}
    {ca : String} {s : St} : IsDdRun (replacePrototypeCallOrApply cfg cargs csp callee member ca) s :=
  replacePrototype_cases (P := (IsDdRun · s)) cfg cargs csp callee member ca (isDdRun_none s)
    (fun _ _ _ _ _ _ _ => replaceCallSpreadWithMember_isDd) (fun _ _ _ _ _ _ _ => replaceCallWithMember_isDd)

theorem toDdCall_isDd (cfg : Config) (e : Node) (s : St) (r : Node) (t : String)
    (h : (toDdCall cfg e s).1 = some (r, t)) : IsDd r := by
  unfold toDdCall at h
  split at h
  · exact toDdCall_cases (P := (IsDdRun · s)) cfg _ _ _ (isDdRun_none s) (fun _ _ _ _ _ => replaceCallWithMember_isDd)
      (fun _ _ _ _ _ _ _ _ => replacePrototypeCallOrApply_isDd) (fun _ _ _ => replaceCallWithoutCallee_isDd) r t h
  · cases h

end IastModel
