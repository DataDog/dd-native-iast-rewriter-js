import IastModel.Lemmas.CnCount
/-
  Telemetry tags against hook names: `tagTo cfg d t` (the entry `t` stands for the replacement name `d`), `VC` (the log
  grew by entries of which as many stand for `d` as hook calls named `d` appeared), and which name each operator tag and
  each method stands for (`tagDst_*`, under `CfgTagsOk`).
-/
namespace IastModel
open Node

/-- a telemetry entry that stands for replacement name `d` -/
def tagTo (cfg : Config) (d : String) (t : Option String) : Bool :=
  match t with
  | some tag => tagDst cfg tag == some d
  | none => false

def countTags (cfg : Config) (d : String) (tags : List (Option String)) : Nat := (tags.filter (tagTo cfg d)).length

@[simp] theorem countTags_nil (cfg d) : countTags cfg d [] = 0 := rfl
theorem countTags_append (cfg d) (a b : List (Option String)) : countTags cfg d (a ++ b) = countTags cfg d a + countTags cfg d b := by
  simp [countTags, List.filter_append]
theorem countTags_single (cfg d) (t : Option String) : countTags cfg d [t] = if tagTo cfg d t then 1 else 0 := by
  simp only [countTags, List.filter_cons, List.filter_nil]
  split <;> rfl

/-- the method names of the configuration do not collide with the operator tags of the telemetry -/
def CfgTagsOk (cfg : Config) : Prop :=
  ∀ m csi, cfg.get m = some csi → m ≠ Generated.addTag ∧ m ≠ Generated.addAssignTag ∧ m ≠ Generated.tplTag

/-- the telemetry log grew by `tags`, of which as many stand for `d` as hook calls named `d` appeared -/
def VC (cfg : Config) (d : String) (s s' : St) (a b : Nat) : Prop :=
  ∃ tags, s'.incs = s.incs ++ tags ∧ b = a + countTags cfg d tags

theorem VC.of_TS {cfg d} {s s' : St} {a : Nat} (h : TS s' s) : VC cfg d s s' a a := ⟨[], by simp [h.1], by simp⟩
theorem VC.refl (cfg d) (s : St) (a : Nat) : VC cfg d s s a a := VC.of_TS (TS.refl s)
theorem VC.trans {cfg d} {s s1 s2 : St} {a b c : Nat} (h1 : VC cfg d s s1 a b) (h2 : VC cfg d s1 s2 b c) : VC cfg d s s2 a c := by
  obtain ⟨t1, i1, e1⟩ := h1
  obtain ⟨t2, i2, e2⟩ := h2
  exact ⟨t1 ++ t2, by rw [i2, i1, List.append_assoc], by rw [countTags_append]; omega⟩
theorem VC.cast {cfg d} {s s' : St} {a b b' : Nat} (h : VC cfg d s s' a b) (e : b = b') : VC cfg d s s' a b' := e ▸ h
theorem VC.cast0 {cfg d} {s s' : St} {a a' b : Nat} (h : VC cfg d s s' a b) (e : a = a') : VC cfg d s s' a' b := e ▸ h

theorem updateStatus_modified_incs (tag : Option String) (s : St) (hs : StOk s) :
    (updateStatus .modified tag s).2.incs = s.incs ++ [tag] := by
  unfold StOk at hs
  simp only [updateStatus, run_modify]
  have : (s.status == Status.cancelled) = false := by
    cases h : s.status <;> simp_all <;> rfl
  simp only [this, Bool.false_eq_true, if_false]
  rfl

theorem vc_updateStatus (cfg : Config) (d : String) (res : Option Node) (tag : String) (s : St) (hs : StOk s) (a : Nat) :
    VC cfg d s (updateStatus (statusOf res) (some tag) s).2 a (a + if res.isSome && tagTo cfg d (some tag) then 1 else 0) := by
  cases res with
  | none =>
    simp only [statusOf, Option.isSome_none, Bool.false_and, Bool.false_eq_true, if_false, Nat.add_zero]
    rw [updateStatus_notModified]; exact VC.refl cfg d s a
  | some e =>
    simp only [statusOf, Option.isSome_some, if_true, Bool.true_and]
    exact ⟨[some tag], updateStatus_modified_incs _ s hs, by rw [countTags_single]⟩

theorem tagDst_add (cfg : Config) : tagDst cfg Generated.addTag = some cfg.plusName := by
  simp [tagDst]
theorem tagDst_addAssign (cfg : Config) : tagDst cfg Generated.addAssignTag = some cfg.plusName := by
  simp [tagDst]
theorem tagDst_tpl (cfg : Config) : tagDst cfg Generated.tplTag = some cfg.tplName := by
  unfold tagDst
  have h1 : (Generated.tplTag == Generated.addTag) = false := by decide +kernel
  have h2 : (Generated.tplTag == Generated.addAssignTag) = false := by decide +kernel
  simp [h1, h2]
theorem tagDst_method (cfg : Config) (hc : CfgTagsOk cfg) (m : String) (csi : CsiMethod) (h : cfg.get m = some csi) :
    tagDst cfg m = some csi.dst := by
  obtain ⟨h1, h2, h3⟩ := hc m csi h
  unfold tagDst
  simp [h1, h2, h3, h]

end IastModel
