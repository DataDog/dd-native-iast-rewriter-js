import IastModel.Lemmas.TempsTr
namespace IastModel
open Node

def OcTZ (oc : OcSt) (s : St) : Prop :=
  tgoodL s.idents oc.assignments = true ∧ ∀ t, oc.newIdent = some t → t ∈ s.idents

/-- a link rebuilt by the lowering is good and is neither a block nor an arrow function -/
def OcResT (R : (Option Node × OcSt) × St) (s : St) : Prop :=
  OcTZ R.1.2 R.2 ∧ (∀ r, R.1.1 = some r → tgood R.2.idents r = true ∧ isClosed r = false) ∧ IdSub s R.2

/-- the optional-chain visitor keeps a good expression good and an open one open -/
def OcPostT (e : Node) (R : (Node × OcSt) × St) (s : St) : Prop :=
  tgood R.2.idents R.1.1 = true ∧ (isClosed e = false → isClosed R.1.1 = false) ∧ OcTZ R.1.2 R.2 ∧ IdSub s R.2

theorem OcTZ.lift {oc : OcSt} {s s' : St} (hz : OcTZ oc s) (hi : IdSub s s') {asg : List Node}
    (ha : tgoodL s'.idents asg = true) : OcTZ { oc with assignments := asg } s' :=
  ⟨ha, fun t ht => hi t (hz.2 t ht)⟩

theorem ocResT_none {oc : OcSt} {s s' : St} (hz : OcTZ oc s') (hi : IdSub s s') : OcResT ((none, oc), s') s :=
  ⟨hz, nofun, hi⟩

theorem ocResT_some {oc : OcSt} {s s' : St} (hz : OcTZ oc s') (hi : IdSub s s') {r : Node}
    (hr : tgood s'.idents r = true) (hc : isClosed r = false) : OcResT ((some r, oc), s') s :=
  ⟨hz, fun _ h => Option.some.inj h ▸ ⟨hr, hc⟩, hi⟩

theorem getCallFromBaseCall_t (callee : Node) (args : List Node) (optional : Bool) (oc : OcSt) (s : St)
    (hc : tgood s.idents callee = true) (ha : tgoodL s.idents args = true) (hz : OcTZ oc s) :
    OcResT (getCallFromBaseCall callee args optional oc s) s := by
  unfold getCallFromBaseCall
  by_cases ho : optional = true
  · rw [if_pos ho]
    split
    · rename_i mobj mprop msp
      rw [tgood_member, Bool.and_eq_true] at hc
      simp only [oc_bind, oc_get, oc_set, oc_lift]
      rcases getIdentUsed_casesT mobj oc.assignments [] Span.dummy .expr s with ⟨_, h1⟩ | ⟨_, t0, s1, h1, i1, ht0⟩
      · rw [h1]; exact ocResT_none (hz.lift (IdSub.refl s) hz.1) (IdSub.refl s)
      · rw [h1]
        simp only [oc_bind, oc_lift, oc_modify]
        have g1 := tgoodL_hoist i1 ht0 hc.1 hz.1 .expr Span.dummy
        rcases getIdentUsed_casesT (Node.member (tempIdent t0) mprop Span.dummy) _ [] Span.dummy .expr s1
          with ⟨hl, _⟩ | ⟨_, t1, s2, h2, i2, ht1⟩
        · cases hl
        · rw [h2]
          simp only [oc_bind, oc_modify, oc_pure]
          have i12 := IdSub.trans i1 i2
          refine ocResT_some ⟨tgoodL_hoist i2 ht1 (by simp [ht0, tgood_lift i1 hc.2]) g1 .expr _, ?_⟩ i12 ?_ rfl
          · intro t ht; cases ht; exact ht1
          · simp [ht1, i2 t0 ht0, tgoodL_lift i12 ha]
    · simp only [oc_bind, oc_get, oc_set, oc_lift]
      rcases getIdentUsed_casesT callee oc.assignments [] Span.dummy .expr s with ⟨_, h1⟩ | ⟨_, t0, s1, h1, i1, ht0⟩
      · rw [h1]; exact ocResT_none (hz.lift (IdSub.refl s) hz.1) (IdSub.refl s)
      · rw [h1]
        have g1 := tgoodL_hoist i1 ht0 hc hz.1 .expr Span.dummy
        have he : ∀ (l : List Node) (x : Node), (l ++ [x]).isEmpty = false := fun l x => by cases l <;> rfl
        simp only [he, Bool.false_eq_true, if_false, oc_bind, oc_modify, oc_pure]
        refine ocResT_some ⟨g1, ?_⟩ i1 (by simp [ht0, tgoodL_lift i1 ha]) rfl
        intro t ht; cases ht; exact ht0
  · rw [if_neg ho]
    exact ocResT_some hz (IdSub.refl s) (by rw [tgood_call, hc, ha]; rfl) rfl

theorem getMemberFromBaseMember_t (obj prop : Node) (msp : Span) (optional : Bool) (oc : OcSt) (s : St)
    (hc : tgood s.idents obj = true) (hp : tgood s.idents prop = true) (hz : OcTZ oc s) :
    OcResT (getMemberFromBaseMember obj prop msp optional oc s) s := by
  unfold getMemberFromBaseMember
  by_cases ho : optional = true
  · rw [if_pos ho]
    simp only [oc_bind, oc_get, oc_set, oc_lift]
    rcases getIdentUsed_casesT obj oc.assignments [] Span.dummy .expr s with ⟨_, h1⟩ | ⟨_, t, s1, h1, i1, ht⟩
    · rw [h1]; exact ocResT_none (hz.lift (IdSub.refl s) hz.1) (IdSub.refl s)
    · rw [h1]
      simp only [oc_bind, oc_modify, oc_pure]
      refine ocResT_some ⟨tgoodL_hoist i1 ht hc hz.1 .expr _, ?_⟩ i1 (by simp [ht, tgood_lift i1 hp]) rfl
      intro t' ht'; cases ht'; exact ht
  · rw [if_neg ho]
    exact ocResT_some hz (IdSub.refl s) (by rw [tgood_member, hc, hp]; rfl) rfl

theorem ocSpine_t (v : Node → OcM Node)
    (hv : ∀ e oc s, tgood s.idents e = true → OcTZ oc s → OcPostT e (v e oc s) s)
    (e : Node) (oc : OcSt) (s : St) (h0 : tgood s.idents e = true) (hz : OcTZ oc s) : OcPostT e (ocSpine v e oc s) s := by
  have same : OcPostT e ((e, oc), s) s := ⟨h0, id, hz, IdSub.refl s⟩
  unfold ocSpine
  split
  · rename_i o callee args csp sp
    rw [tgood_optChain, tgood_optCall, Bool.and_eq_true] at h0
    simp only [oc_bind, oc_pure]
    obtain ⟨h1, _, h2, h3⟩ := hv callee oc s h0.1 hz
    exact ⟨by rw [tgood_optChain, tgood_optCall, h1, tgoodL_lift h3 h0.2]; rfl, fun _ => rfl, h2, h3⟩
  · rename_i o obj prop msp sp
    rw [tgood_optChain, tgood_member, Bool.and_eq_true] at h0
    simp only [oc_bind, oc_pure]
    obtain ⟨h1, _, h2, h3⟩ := hv obj oc s h0.1 hz
    exact ⟨by rw [tgood_optChain, tgood_member, h1, tgood_lift h3 h0.2]; rfl, fun _ => rfl, h2, h3⟩
  · rename_i callee args sp
    rw [tgood_call, Bool.and_eq_true] at h0
    split
    · exact same
    · simp only [oc_bind, oc_pure]
      obtain ⟨h1, _, h2, h3⟩ := hv callee oc s h0.1 hz
      exact ⟨by rw [tgood_call, h1, tgoodL_lift h3 h0.2]; rfl, fun _ => rfl, h2, h3⟩
  · rename_i obj prop sp
    rw [tgood_member, Bool.and_eq_true] at h0
    simp only [oc_bind, oc_pure]
    obtain ⟨h1, _, h2, h3⟩ := hv obj oc s h0.1 hz
    exact ⟨by rw [tgood_member, h1, tgood_lift h3 h0.2]; rfl, fun _ => rfl, h2, h3⟩
  · exact same

theorem outOfFuel_ids (s : St) : IdSub s (outOfFuel s).2 := fun _ h => h

theorem ocVisit_t (cfg : Config) : ∀ (f : Nat) (n : Node) (oc : OcSt) (s : St),
    tgood s.idents n = true → OcTZ oc s → OcPostT n (ocVisit cfg f n oc s) s := fun f n oc s h hz =>
  ocVisit_rule cfg (Pre := fun n oc s => tgood s.idents n = true ∧ OcTZ oc s) (Q := fun n _ s R => OcPostT n R s)
    (H := fun _ _ s R => OcResT R s)
    (fun _ _ s h => ⟨h.1, id, h.2, outOfFuel_ids s⟩)
    (fun _ _ s h => ⟨h.1, id, h.2, IdSub.refl s⟩)
    (fun o callee args csp sp oc s ⟨h, hz⟩ => by
      rw [tgood_optChain, tgood_optCall, Bool.and_eq_true] at h
      exact getCallFromBaseCall_t callee args o oc s h.1 h.2 hz)
    (fun o obj prop msp sp oc s ⟨h, hz⟩ => by
      rw [tgood_optChain, tgood_member, Bool.and_eq_true] at h
      exact getMemberFromBaseMember_t obj prop msp o oc s h.1 h.2 hz)
    (fun _ _ s h => ocResT_none h.2 (IdSub.refl s))
    (fun n oc s r oc1 s1 ⟨h, _⟩ ⟨hz1, hr, i1⟩ => by
      refine ⟨⟨?_, hz1⟩, fun X ⟨g, c, z, i2⟩ => ⟨g, fun hc => c ?_, z, IdSub.trans i1 i2⟩⟩
      · cases r with
        | none => exact tgood_lift i1 h
        | some x => exact (hr x rfl).1
      · cases r with
        | none => exact hc
        | some x => exact (hr x rfl).2)
    (fun _ hv e oc s h => ocSpine_t _ (fun e oc s a b => hv e oc s ⟨a, b⟩) e oc s h.1 h.2)
    (fun _ _ _ h => ⟨h, fun _ hX => hX⟩) f n oc s ⟨h, hz⟩

theorem toDdCond_t (cfg : Config) (fuel : Nat) (e : Node) (s : St) (h : tgood s.idents e = true) (hc : isClosed e = false) :
    let R := toDdCond cfg fuel e s
    tgood R.2.idents (R.1.2.getD R.1.1) = true ∧ isClosed (R.1.2.getD R.1.1) = false ∧ IdSub s R.2 := by
  unfold toDdCond
  simp only [run_bind]
  obtain ⟨h1, c1, h2, h3⟩ : OcPostT e (StateT.run (ocVisit cfg fuel e) {} s) s := ocVisit_t cfg fuel e {} s h ⟨rfl, nofun⟩
  generalize (StateT.run (ocVisit cfg fuel e) {} s) = X at h1 c1 h2 h3 ⊢
  obtain ⟨⟨e', oc⟩, s'⟩ := X
  cases hn : oc.newIdent with
  | none => exact ⟨h1, c1 hc, h3⟩
  | some t =>
    dsimp only
    by_cases ha : oc.assignments.isEmpty = true
    · rw [if_pos ha]; exact ⟨h1, c1 hc, h3⟩
    · rw [if_neg ha]
      refine ⟨?_, rfl, h3⟩
      have ht : t ∈ s'.idents := h2.2 t hn
      have h1' : tgood s'.idents e' = true := h1
      simp [run_pure, nullLit, ht, h1', h2.1]

end IastModel
