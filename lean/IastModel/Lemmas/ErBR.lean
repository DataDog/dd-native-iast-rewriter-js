import IastModel.Lemmas.ErSrc
import IastModel.Lemmas.PushNoBlock
/-
  `BRg a b`: `b` is `a` with some block statements replaced by blocks that erase to the statements of
  the block they replace — what the block visitor does below the block it is working on, as far as
  `erase` can tell.  The erasure invariants are stated for every such `b`, so that they survive the
  block visitor's later work on nested blocks.
-/
namespace IastModel
open Node

theorem eq_block_of_isBlockNode {t : Node} (h : isBlockNode t = true) : ∃ ss sp, t = .block ss sp := by
  cases t with
  | block ss sp => exact ⟨ss, sp, rfl⟩
  | _ => cases h

/-- the erased statements of a replacing block match the statements of the replaced block: the same up
    to positions, statement by statement at the same position -/
def BlkSim (es ss : List Node) : Prop := stripL es = stripL ss ∧ es.map Node.span = ss.map Node.span

mutual
inductive BRg : Node → Node → Prop
  | refl (a : Node) : BRg a a
  | blk (ss ss' : List Node) (sp : Span) :
      (∀ σ, ∃ es, erase σ (.block ss' sp) = (.block es sp, σ) ∧ BlkSim es ss) → BRg (.block ss sp) (.block ss' sp)
  | node (n : Node) (ks' : List Node) : isBlockNode n = false → BRgL n.kids ks' → BRg n (n.withKids ks')
inductive BRgL : List Node → List Node → Prop
  | nil : BRgL [] []
  | cons {a b : Node} {as bs : List Node} : BRg a b → BRgL as bs → BRgL (a :: as) (b :: bs)
end

theorem BRgL.refl : ∀ l : List Node, BRgL l l
  | [] => BRgL.nil
  | x :: xs => BRgL.cons (BRg.refl x) (BRgL.refl xs)

theorem BRgL.length {xs ys : List Node} (h : BRgL xs ys) : ys.length = xs.length := by
  induction xs generalizing ys with
  | nil => cases h; rfl
  | cons x xs ih => cases h with | cons _ ht => simp [ih ht]

theorem BRgL.nil_inv {ys : List Node} (h : BRgL [] ys) : ys = [] := by cases h; rfl

theorem BRgL.cons_inv {a : Node} {as ys : List Node} (h : BRgL (a :: as) ys) :
    ∃ b bs, ys = b :: bs ∧ BRg a b ∧ BRgL as bs := by
  cases h with | cons h1 h2 => exact ⟨_, _, rfl, h1, h2⟩

theorem BRgL.append_inv {xs ys ks : List Node} (h : BRgL (xs ++ ys) ks) :
    ∃ k1 k2, ks = k1 ++ k2 ∧ BRgL xs k1 ∧ BRgL ys k2 := by
  induction xs generalizing ks with
  | nil => exact ⟨[], ks, rfl, BRgL.nil, h⟩
  | cons x xs ih =>
    obtain ⟨b, bs, rfl, hb, hs⟩ := BRgL.cons_inv h
    obtain ⟨k1, k2, rfl, h1, h2⟩ := ih hs
    exact ⟨b :: k1, k2, rfl, BRgL.cons hb h1, h2⟩

theorem BRgL.append {a b c d : List Node} (h1 : BRgL a b) (h2 : BRgL c d) : BRgL (a ++ c) (b ++ d) := by
  induction a generalizing b with
  | nil => rw [BRgL.nil_inv h1]; exact h2
  | cons x xs ih =>
    obtain ⟨y, ys, rfl, hy, hys⟩ := BRgL.cons_inv h1
    exact BRgL.cons hy (ih hys)

theorem BRgL.single_inv {a : Node} {ys : List Node} (h : BRgL [a] ys) : ∃ b, ys = [b] ∧ BRg a b := by
  obtain ⟨b, bs, rfl, hb, hs⟩ := BRgL.cons_inv h
  rw [BRgL.nil_inv hs]; exact ⟨b, rfl, hb⟩

/-- inversion: a non-block node is rewritten child-wise -/
theorem BRg.inv {a b : Node} (h : BRg a b) (hb : isBlockNode a = false) :
    ∃ ks', b = a.withKids ks' ∧ BRgL a.kids ks' := by
  cases h with
  | refl => exact ⟨a.kids, (Node.withKids_kids a).symm, BRgL.refl _⟩
  | blk => simp [isBlockNode] at hb
  | node n ks' _ hk => exact ⟨ks', rfl, hk⟩

theorem BRg.node' {n : Node} {ks' : List Node} (hb : isBlockNode n = false) (h : BRgL n.kids ks') : BRg n (n.withKids ks') :=
  BRg.node n ks' hb h

mutual
theorem BRg.toBR : ∀ {a b : Node}, BRg a b → BR a b
  | _, _, .refl a => BR.refl a
  | _, _, .blk ss ss' sp _ => BR.blk ss ss' sp
  | _, _, .node n ks' hb hk => BR.node' hb (BRgL.toBRL hk)
theorem BRgL.toBRL : ∀ {xs ys : List Node}, BRgL xs ys → BRL xs ys
  | _, _, .nil => BRL.nil
  | _, _, .cons h hs => BRL.cons (BRg.toBR h) (BRgL.toBRL hs)
end

theorem BRg_noBlk {a b : Node} (ha : noBlk a = true) (h : BRg a b) : b = a := BR_noBlk a ha b h.toBR
theorem BRgL_noBlk {xs ys : List Node} (hx : noBlkL xs = true) (h : BRgL xs ys) : ys = xs := BRL_noBlk hx h.toBRL

theorem BRg.arg_inv {s : Option Span} {e b : Node} (h : BRg (.arg s e) b) : ∃ e', b = .arg s e' ∧ BRg e e' := by
  obtain ⟨ks', rfl, hk⟩ := h.inv rfl
  obtain ⟨e', rfl, he⟩ := BRgL.single_inv hk
  exact ⟨e', by simp [withKids], he⟩

/-- a block is replaced by a block at the same position that erases to its statements (or is left as it is) -/
theorem BRg.block_inv {ss : List Node} {sp : Span} {b : Node} (h : BRg (.block ss sp) b) :
    b = .block ss sp ∨ ∃ ss', b = .block ss' sp ∧ ∀ σ, ∃ es, erase σ (.block ss' sp) = (.block es sp, σ) ∧ BlkSim es ss := by
  cases h with
  | refl => exact Or.inl rfl
  | blk _ ss' _ hg => exact Or.inr ⟨ss', rfl, hg⟩
  | node n ks' hb _ => simp [isBlockNode] at hb

theorem span_withKids_notArg (n : Node) (ks : List Node) (h : ∀ s e, n ≠ .arg s e) : (n.withKids ks).span = n.span := by
  cases n <;> first | rfl | (exfalso; exact h _ _ rfl)

/-- a block carries its position along; so does every other node -/
theorem BRg.span : ∀ (a b : Node), BRg a b → b.span = a.span := by
  apply Node.ind
  intro a ih b h
  by_cases hb : isBlockNode a = true
  · obtain ⟨ss, sp, rfl⟩ := eq_block_of_isBlockNode hb
    rcases h.block_inv with rfl | ⟨ss', rfl, _⟩ <;> rfl
  · simp only [Bool.not_eq_true] at hb
    by_cases harg : ∃ s e, a = .arg s e
    · obtain ⟨s, e, rfl⟩ := harg
      obtain ⟨e', rfl, he⟩ := h.arg_inv
      exact ih e (by simp [kids]) e' he
    · obtain ⟨ks', rfl, _⟩ := h.inv hb
      exact span_withKids_notArg _ _ (fun s e hh => harg ⟨s, e, hh⟩)

theorem BRg.arg_mk (s : Option Span) {e e' : Node} (h : BRg e e') : BRg (.arg s e) (.arg s e') := by
  have := BRg.node' (n := .arg s e) (ks' := [e']) rfl (BRgL.cons h BRgL.nil)
  simpa [withKids] using this

theorem BRg.bin_inv {op : String} {l r b : Node} {sp : Span} (h : BRg (.bin op l r sp) b) :
    ∃ l' r', b = .bin op l' r' sp ∧ BRg l l' ∧ BRg r r' := by
  obtain ⟨ks', rfl, hk⟩ := h.inv rfl
  obtain ⟨l', t, rfl, hl, ht⟩ := BRgL.cons_inv hk
  obtain ⟨r', rfl, hr⟩ := BRgL.single_inv ht
  exact ⟨l', r', by simp [withKids], hl, hr⟩

theorem BRg.assign_inv {op : String} {l r b : Node} {sp : Span} (h : BRg (.assign op l r sp) b) :
    ∃ l' r', b = .assign op l' r' sp ∧ BRg l l' ∧ BRg r r' := by
  obtain ⟨ks', rfl, hk⟩ := h.inv rfl
  obtain ⟨l', t, rfl, hl, ht⟩ := BRgL.cons_inv hk
  obtain ⟨r', rfl, hr⟩ := BRgL.single_inv ht
  exact ⟨l', r', by simp [withKids], hl, hr⟩

theorem BRg.member_inv {o p b : Node} {sp : Span} (h : BRg (.member o p sp) b) :
    ∃ o' p', b = .member o' p' sp ∧ BRg o o' ∧ BRg p p' := by
  obtain ⟨ks', rfl, hk⟩ := h.inv rfl
  obtain ⟨o', t, rfl, ho, ht⟩ := BRgL.cons_inv hk
  obtain ⟨p', rfl, hp⟩ := BRgL.single_inv ht
  exact ⟨o', p', by simp [withKids], ho, hp⟩

theorem BRg.paren_inv {e b : Node} {sp : Span} (h : BRg (.paren e sp) b) : ∃ e', b = .paren e' sp ∧ BRg e e' := by
  obtain ⟨ks', rfl, hk⟩ := h.inv rfl
  obtain ⟨e', rfl, he⟩ := BRgL.single_inv hk
  exact ⟨e', by simp [withKids], he⟩

theorem BRg.seq_inv {es : List Node} {b : Node} {sp : Span} (h : BRg (.seq es sp) b) : ∃ es', b = .seq es' sp ∧ BRgL es es' := by
  obtain ⟨ks', rfl, hk⟩ := h.inv rfl
  exact ⟨ks', by simp [withKids], hk⟩

theorem BRg.array_inv {es : List Node} {b : Node} {sp : Span} (h : BRg (.array es sp) b) : ∃ es', b = .array es' sp ∧ BRgL es es' := by
  obtain ⟨ks', rfl, hk⟩ := h.inv rfl
  exact ⟨ks', by simp [withKids], hk⟩

theorem BRg.other_inv {k : String} {sp : Span} {ns : List String} {vs : List Node} {b : Node} (h : BRg (.other k sp ns vs) b) :
    ∃ vs', b = .other k sp ns vs' ∧ BRgL vs vs' := by
  obtain ⟨ks', rfl, hk⟩ := h.inv rfl
  exact ⟨ks', by simp [withKids], hk⟩

theorem BRg.call_inv {c b : Node} {as : List Node} {sp : Span} (h : BRg (.call c as sp) b) :
    ∃ c' as', b = .call c' as' sp ∧ BRg c c' ∧ BRgL as as' := by
  obtain ⟨ks', rfl, hk⟩ := h.inv rfl
  obtain ⟨c', as', rfl, hc, has⟩ := BRgL.cons_inv hk
  exact ⟨c', as', by simp [withKids], hc, has⟩

theorem BRg.tpl_inv {es qs : List Node} {b : Node} {sp : Span} (h : BRg (.tpl es qs sp) b) :
    ∃ es' qs', b = .tpl es' qs' sp ∧ BRgL es es' ∧ BRgL qs qs' := by
  obtain ⟨ks', rfl, hk⟩ := h.inv rfl
  obtain ⟨k1, k2, rfl, h1, h2⟩ := BRgL.append_inv hk
  refine ⟨k1, k2, ?_, h1, h2⟩
  simp only [withKids]
  rw [← h1.length, List.take_left, List.drop_left]

theorem BRg.cond_inv {t c a b : Node} {sp : Span} (h : BRg (.cond t c a sp) b) :
    ∃ t' c' a', b = .cond t' c' a' sp ∧ BRg t t' ∧ BRg c c' ∧ BRg a a' := by
  obtain ⟨ks', rfl, hk⟩ := h.inv rfl
  obtain ⟨t', r1, rfl, ht, h1⟩ := BRgL.cons_inv hk
  obtain ⟨c', r2, rfl, hc, h2⟩ := BRgL.cons_inv h1
  obtain ⟨a', rfl, ha⟩ := BRgL.single_inv h2
  exact ⟨t', c', a', by simp [withKids], ht, hc, ha⟩

theorem BRg.arrow_inv {ps : List Node} {body b : Node} {at' : String} {sp : Span} (h : BRg (.arrow ps body at' sp) b) :
    ∃ ps' body', b = .arrow ps' body' at' sp ∧ BRgL ps ps' ∧ BRg body body' := by
  obtain ⟨ks', rfl, hk⟩ := h.inv rfl
  obtain ⟨k1, k2, rfl, h1, h2⟩ := BRgL.append_inv hk
  obtain ⟨b', rfl, hb⟩ := BRgL.single_inv h2
  refine ⟨k1, b', ?_, h1, hb⟩
  simp only [withKids]
  rw [← h1.length, List.take_left]
  simp

def isTempIdentB : Node → Bool
  | .ident (.temp _) _ => true
  | _ => false

theorem isTempAssign_eq (op : String) (l r : Node) (sp : Span) :
    IastModel.isTempAssign (.assign op l r sp) = (op == "=" && isTempIdentB l) := by
  unfold IastModel.isTempAssign isTempIdentB
  split
  · rename_i heq
    simp only [assign.injEq] at heq
    obtain ⟨rfl, rfl, _, _⟩ := heq
    simp
  · rename_i hne
    by_cases hop : op = "="
    · subst hop
      cases l with
      | ident nm isp =>
        cases nm with
        | temp k => exact absurd rfl (hne k isp r sp)
        | user x => simp
      | _ => simp
    · simp [hop]

/-- whatever does not depend on the children of `a` is the same for `a` and for what replaces it -/
theorem BRg.head_at {α : Type} {f : Node → α} {a b : Node} (h : BRg a b) (hf : ∀ ks, f (a.withKids ks) = f a) :
    f b = f a := by
  cases h with
  | refl => rfl
  | blk ss ss' sp => exact hf ss'
  | node n ks' => exact hf ks'

theorem BRg.exists_withKids {a b : Node} (h : BRg a b) : ∃ ks, b = a.withKids ks := by
  cases h with
  | refl => exact ⟨a.kids, (Node.withKids_kids a).symm⟩
  | blk ss ss' sp => exact ⟨ss', rfl⟩
  | node n ks' => exact ⟨ks', rfl⟩

theorem BRg.isTempIdentB {a b : Node} (h : BRg a b) : IastModel.isTempIdentB b = IastModel.isTempIdentB a :=
  h.head_at fun _ => by cases a <;> rfl

theorem BRg.tempTarget {a b : Node} (h : BRg a b) : tempTarget? b = tempTarget? a :=
  h.head_at fun _ => by cases a <;> rfl

theorem BRg.isTempAssign {a b : Node} (h : BRg a b) : IastModel.isTempAssign b = IastModel.isTempAssign a := by
  cases a with
  | assign op l r sp =>
    obtain ⟨l', r', rfl, hl, _⟩ := h.assign_inv
    rw [isTempAssign_eq, isTempAssign_eq, hl.isTempIdentB]
  | _ => exact h.head_at fun _ => rfl

end IastModel
