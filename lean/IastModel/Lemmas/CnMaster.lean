import IastModel.Lemmas.CnTags
/-
  C15, per replacement name: the operation visitor, the block visitor and the program traversal emit as
  many hook calls named `d` as they log telemetry entries that stand for `d` (`VC`, an instance of the
  counting theorems at `isHookNamed d`).
-/
namespace IastModel
open Node

theorem crel_VC (cfg : Config) (d : String) : CRel (VC cfg d) where
  ts _ h := VC.of_TS h
  trans := VC.trans
  add := by
    rintro _ _ _ a b c e ⟨t1, i1, e1⟩ ⟨t2, i2, e2⟩
    exact ⟨t1 ++ t2, by rw [i2, i1, List.append_assoc], by rw [countTags_append]; omega⟩

/-- a transform's result is logged under `tag`, which stands for the name `m` its hook was given -/
theorem vc_step (cfg : Config) (d : String) (res : Option Node) (tag m : String) (n : Node) {s s2 : St} (hs : StOk s)
    (t2 : TS s2 s) (htag : tagDst cfg tag = some m)
    (h : ∀ e', res = some e' → cn d e' = (if m == d then 1 else 0) + cn d n) :
    VC cfg d s (updateStatus (statusOf res) (some tag) s2).2 (cn d n) (cn d (res.getD n)) := by
  refine ((VC.of_TS t2).trans (vc_updateStatus cfg d res tag s2 ((Eff.of_TS t2).stOk hs) (cn d n))).cast ?_
  cases res with
  | none => simp
  | some e' =>
    rw [Option.getD_some, h e' rfl]
    simp only [Option.isSome_some, Bool.true_and, tagTo, htag]
    by_cases hd : m = d <;> simp [hd] <;> omega

theorem isHookNamed_mapKids (cfg : Config) (ok : String → Bool) (hcfg : CfgOk ok cfg) (d : String) (f : Nat) (r : Bool)
    (n : Node) (s : St) (h0 : ns n = 0) (ht : targetsOk n = true) (hs : StOk s) :
    isHookNamed d (mapKidsM mapM' (visit cfg f r) n s).1 = isHookNamed d n := by
  rw [isHookNamed_of_none d (hookName?_mapKids cfg ok hcfg f r n s h0 ht hs), isHookNamed_of_none d (hookName?_of_ns0 h0)]

/-- per replacement name: the operation visitor emits as many hook calls named `d` as it logs
    telemetry entries that stand for `d` -/
theorem visit_C (cfg : Config) (ok : String → Bool) (hcfg : CfgOk ok cfg) (hct : CfgTagsOk cfg) (d : String) :
    ∀ (f : Nat) (root : Bool) (n : Node) (s : St), ns n = 0 → targetsOk n = true → StOk s →
      VC cfg d s (visit cfg f root n s).2 (cn d n) (cn d (visit cfg f root n s).1) :=
  visit_rel (crel_VC cfg d) (scaf_hookNamed d) cfg ok hcfg (fun f r n s _ => isHookNamed_mapKids cfg ok hcfg d f r n s)
    (fun n s => by
      obtain ⟨k, h, hk⟩ := (scaf_hookNamed d).c_toDdArrow (fun _ _ _ _ _ => rfl) n
      rw [h, hk fun _ _ => rfl]; exact VC.refl cfg d s _)
    (fun op l r sp s _ _ _ hs t2 => vc_step cfg d _ _ cfg.plusName _ hs t2 (tagDst_add cfg) fun e' he => by
      obtain ⟨hn, h⟩ := toDdBinary_cnt (scaf_hookNamed d) cfg op l r sp s e' he
      exact (h.eq (targetBlind_hookNamed d).1).trans
        (by rw [hookW_hookNamed d hn]; exact congrArg _ ((scaf_hookNamed d).c_bin op l r sp).symm))
    (fun op l r sp s _ _ hts hs t2 => vc_step cfg d _ _ cfg.plusName _ hs t2 (tagDst_addAssign cfg) fun e' he => by
      obtain ⟨hn, κ, h, _, h0⟩ := toDdAssign_cnt (scaf_hookNamed d) cfg op l r sp s e' he
      exact h.trans (by rw [h0 (targetBlind_hookNamed d) hts, hookW_hookNamed d hn]; rfl))
    (fun es qs sp s _ _ hs t2 => vc_step cfg d _ _ cfg.tplName _ hs t2 (tagDst_tpl cfg) fun e' he => by
      obtain ⟨hn, h⟩ := toDdTpl_cnt (scaf_hookNamed d) cfg es qs sp s e' he
      exact (h.eq (targetBlind_hookNamed d).1).trans (by rw [hookW_hookNamed d hn]; rfl))
    (fun c as sp s e tag hc _ hs t2 he => by
      obtain ⟨⟨csi, hget, hn⟩, h⟩ := toDdCall_cnt (scaf_hookNamed d) cfg c as sp s (hookName?_call_none as sp hc) e tag he
      refine (VC.of_TS t2).trans ⟨[some tag], updateStatus_modified_incs _ _ ((Eff.of_TS t2).stOk hs), ?_⟩
      rw [countTags_single, h.eq (targetBlind_hookNamed d).1, hookW_hookNamed d hn]
      simp only [tagTo, tagDst_method cfg hct tag csi hget]
      by_cases hd : csi.dst = d <;> simp [hd] <;> omega)

def hookNamesL (l : List Node) : List String := (l.map hookNames).flatten

theorem hookNames_eq (n : Node) : hookNames n = (match hookName? n with | some nm => [nm] | none => []) ++ hookNamesL n.kids := by
  unfold hookNames hookNamesL
  rw [hooks_eq]
  simp only [List.filterMap_append]
  congr 1
  · unfold isHook
    cases h : hookName? n with
    | none => simp
    | some nm => simp [h]
  · unfold hooksL
    rw [List.filterMap_flatten, List.map_map]
    rfl

theorem countStr_append (xs ys : List String) (d : String) : countStr (xs ++ ys) d = countStr xs d + countStr ys d := by
  simp [countStr, List.filter_append]

/-- the number of hook call sites named `d`, read off the list of hook names of the tree -/
theorem cn_eq_countStr (d : String) : ∀ n : Node, cn d n = countStr (hookNames n) d := by
  apply Node.ind
  intro n ih
  rw [cn_eq, hookNames_eq, countStr_append]
  have hL : ∀ l : List Node, (∀ k ∈ l, k ∈ n.kids) → cnL d l = countStr (hookNamesL l) d := by
    intro l
    induction l with
    | nil => intro _; rfl
    | cons x xs ihl =>
      intro hm
      simp only [cnL_cons, hookNamesL, List.map_cons, List.flatten_cons, countStr_append]
      rw [ih x (hm x (by simp)), ihl (fun k hk => hm k (by simp [hk]))]
      rfl
  rw [hL n.kids (fun k hk => hk)]
  congr 1
  unfold isHookNamed
  cases h : hookName? n with
  | none => simp [countStr]
  | some nm =>
    by_cases hd : nm = d
    · subst hd; simp [countStr]
    · have : (some nm == some d) = false := by simp [hd]
      simp [countStr, this, hd]

/-- a tree that does not mention the namespace contains no hook call -/
theorem cn_of_ns0 (d : String) : ∀ n : Node, ns n = 0 → cn d n = 0 :=
  count_of_ns0 fun _ h => isHookNamed_of_none d h

/-- **C15 (per-operation breakdown), for the whole pipeline.**  For every replacement name `d`, the
    number of `_ddiast.d(…)` call sites of the output equals the number of telemetry entries whose tag
    stands for `d` (`+` and `+=` for the plus operator's name, `Tpl` for the template operator's, a
    method's source name for its replacement name): the debug counts partition the reported number by
    operation.  Hypotheses as in `master`, plus: no configured method is named like an operator tag. -/
theorem tags_partition_hooks_master (cfg : Config) (fuel : Nat) (p : Node) (h0 : ns p = 0) (ht : targetsOk p = true)
    (hct : CfgTagsOk cfg) (hnc : (transformProgram cfg fuel p).status ≠ .cancelled) (d : String) :
    countStr (hookNames (transformProgram cfg fuel p).out) d = countTags cfg d (transformProgram cfg fuel p).incs := by
  obtain ⟨hfin, _, hincs, hout, _⟩ := transformProgram_run cfg fuel p hnc
  have hcfg := cfgOk_dsts cfg
  -- the prologue adds no hook call
  have hnames : hookNames (transformProgram cfg fuel p).out = hookNames (mapKidsM mapM' (blockVisit cfg fuel fuel) p {}).1 := by
    rw [hout]
    split
    · unfold hookNames; rw [hooks_insertPrologue _ _ (hooks_prologue cfg.dsts)]
    · rfl
  rw [hnames, ← cn_eq_countStr, hincs]
  obtain ⟨tags, hi, he⟩ := program_rel (crel_VC cfg d) cfg (okCfg cfg) hcfg (visit_C cfg (okCfg cfg) hcfg hct d)
    (letDecl_cnt (fun _ _ _ _ _ => rfl) (fun _ => rfl) (fun _ => rfl) (fun _ _ => rfl)) (fun _ _ => rfl)
    (fun c as as' sp => by simp only [isHookNamed, hookName?_args c as as' sp sp])
    (fun opFuel f n s hb hn hs hg hfin => by
      rw [isHookNamed_of_none d (hookName?_mapBlocks cfg _ hcfg opFuel f n s hn hs (goodL_kids hb hn hg) hfin),
        isHookNamed_of_none d hn])
    (fun fuel prog h0 ht hfin => by
      rw [isHookNamed_of_none d (hookName?_mapBlocks cfg _ hcfg fuel fuel prog {} (hookName?_of_ns0 h0) (by intro h; cases h)
        (goodL_kids_of_ns0 _ h0 ht) hfin), isHookNamed_of_none d (hookName?_of_ns0 h0)])
    fuel p h0 ht hfin
  have h1 : count (isHookNamed d) p = 0 := cn_of_ns0 d p h0
  show count (isHookNamed d) _ = _
  rw [he, h1, hi]
  simp

end IastModel
