import IastModel.Lemmas.CvTr
/-
  The operation visitor adds a hook site to `cq q` only if `q` holds of a site a transform builds (`visit_cq_eq`); every
  site built mirrors its operation, so `cv` is unchanged (`visit_V`).
-/
namespace IastModel
open Node

theorem isBadHook_mapKids (q : Node → Bool) (cfg : Config) (ok : String → Bool) (hcfg : CfgOk ok cfg) (f : Nat) (r : Bool)
    (n : Node) (s : St) (h0 : ns n = 0) (ht : targetsOk n = true) (hs : StOk s) :
    isBadHook q (mapKidsM mapM' (visit cfg f r) n s).1 = isBadHook q n := by
  rw [isBadHook_of_none q (hookName?_mapKids cfg ok hcfg f r n s h0 ht hs), isBadHook_of_none q (hookName?_of_ns0 h0)]

/-- the operation visitor adds exactly the hook sites at which `q` holds, given that `q` fails at every site a
    transform builds -/
theorem visit_cq_eq (q : Node → Bool) (cfg : Config) (ok : String → Bool) (hcfg : CfgOk ok cfg)
    (hbin : ∀ l r sp s e', (toDdBinary cfg (.bin "+" l r sp) s).1 = some e' → q (lastOf e') = false)
    (hasg : ∀ op l r sp s e', (toDdAssign cfg (.assign op l r sp) s).1 = some e' → q (siteOf e') = false)
    (htpl : ∀ es qs sp s e', (toDdTpl cfg (.tpl es qs sp) s).1 = some e' → q (lastOf e') = false)
    (hcall : ∀ c as sp s e' tag, (toDdCall cfg (.call c as sp) s).1 = some (e', tag) → q (lastOf e') = false) :
    ∀ (f : Nat) (root : Bool) (n : Node) (s : St), ns n = 0 → targetsOk n = true → StOk s →
      cq q (visit cfg f root n s).1 = cq q n :=
  visit_rel_w (r := fun a b => b = a) (fun _ => rfl) (fun h1 h2 => h2.trans h1) (fun h1 h2 => by rw [h1, h2])
    (scaf_badHook q) cfg ok hcfg (fun f r n s _ => isBadHook_mapKids q cfg ok hcfg f r n s)
    (fun n => by
      obtain ⟨k, h, hk⟩ := (scaf_badHook q).c_toDdArrow (fun _ _ _ _ _ => rfl) n
      rw [h, hk fun _ _ => rfl]; rfl)
    (fun op l r sp s e' hop he => by
      cases eq_of_beq hop
      show cq q e' = cq q _
      rw [toDdBinary_Q q cfg "+" l r sp s e' he, hbin l r sp s e' he]
      exact (Nat.zero_add _).trans ((scaf_badHook q).c_bin "+" l r sp).symm)
    (fun op l r sp s e' hts he => by show cq q e' = cq q _; rw [toDdAssign_Q q cfg op l r sp s hts e' he, hasg op l r sp s e' he]; exact Nat.zero_add _)
    (fun es qs sp s e' he => by show cq q e' = cq q _; rw [toDdTpl_Q q cfg es qs sp s e' he, htpl es qs sp s e' he]; exact Nat.zero_add _)
    (fun c as sp s e' tag hn he => by
      obtain ⟨_, _, h⟩ := toDdCall_Q q cfg c as sp s e' tag he
      show cq q e' = cq q _
      rw [h, hcall c as sp s e' tag he, cq_call_user q c as sp hn]; exact congrArg (· + cqL q as) (Nat.zero_add _))

/-- **the operation visitor leaves no hook site that does not mirror its operation** (conservation form:
    the number of such sites does not change; a source tree has none) -/
theorem visit_V (cfg : Config) (ok : String → Bool) (hcfg : CfgOk ok cfg) :
    ∀ (f : Nat) (root : Bool) (n : Node) (s : St), ns n = 0 → targetsOk n = true → StOk s →
      cv cfg (visit cfg f root n s).1 = cv cfg n :=
  visit_cq_eq (badSite cfg) cfg ok hcfg
    (fun l r sp s e' he => by
      obtain ⟨first, args, asg, h1, hm⟩ := toDdBinary_mirror cfg l r sp s e' he
      rw [lastOf_eq_of_ddParen h1, badSite_of_MirOK hm])
    (fun op l r sp s e' he => by
      obtain ⟨target, first, args, asg, h1, hm⟩ := toDdAssign_mirror cfg op l r sp s e' he
      rw [h1, siteOf_assign, lastOf_ddParen, badSite_of_MirOK hm])
    (fun es qs sp s e' he => by
      obtain ⟨first, args, asg, h1, hm⟩ := toDdTpl_mirror cfg es qs sp s e' he
      rw [lastOf_eq_of_ddParen h1, badSite_of_MirOK hm])
    (fun c as sp s e' tag he => by
      obtain ⟨first, args, asg, name, sp', h1, hm⟩ := toDdCall_mirror cfg c as sp s e' tag he
      rw [lastOf_eq_of_ddParen h1, badSite_of_MirOK hm])

end IastModel
