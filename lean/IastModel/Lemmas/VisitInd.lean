import IastModel.Lemmas.VisitSpec
/-
  The operation visitor's case analysis for a run that does not exhaust its fuel, done once: a relation `P`
  between a source node and what the visitor returns for it follows from what each arm does with children
  that are already related by `P`.  State, fuel and telemetry are dealt with here; the hypotheses speak of
  nodes only.
-/
namespace IastModel
open Node

theorem TS.fo {s' s : St} (h : TS s' s) (hf : s'.fuelOut = false) : s.fuelOut = false := by
  cases hs : s.fuelOut
  · rfl
  · rw [h.2.2 hs] at hf; cases hf

theorem Eff.fo {s s' : St} {k : Nat} (h : Eff s s' k) (hf : s'.fuelOut = false) : s.fuelOut = false := by
  obtain ⟨_, _, _, _, m⟩ := h
  cases hs : s.fuelOut
  · rfl
  · rw [m hs] at hf; cases hf

theorem Forall2.sum_le {α β : Type} {R : α → β → Prop} {f : α → Nat} {g : β → Nat} (hR : ∀ a b, R a b → f a ≤ g b) :
    ∀ {l : List α} {l' : List β}, Forall2 R l l' → (l.map f).sum ≤ (l'.map g).sum
  | [], [], _ => Nat.le_refl _
  | _ :: _, _ :: _, h => Nat.add_le_add (hR _ _ h.1) (Forall2.sum_le hR h.2)

theorem Forall2.sum_pos {α β : Type} {R : α → β → Prop} {f : α → Nat} {g : β → Nat} (hR : ∀ a b, R a b → 1 ≤ f a → 1 ≤ g b) :
    ∀ {l : List α} {l' : List β}, Forall2 R l l' → 1 ≤ (l.map f).sum → 1 ≤ (l'.map g).sum
  | [], [], _, h => h
  | a :: _, _ :: _, hl, h => by
    rw [List.map_cons, List.sum_cons] at h ⊢
    by_cases h1 : 1 ≤ f a
    · exact Nat.le_trans (hR _ _ hl.1 h1) (Nat.le_add_right _ _)
    · exact Nat.le_trans (Forall2.sum_pos hR hl.2 (by omega)) (Nat.le_add_left _ _)

theorem outOfFuel_fo (s : St) : (outOfFuel s).2.fuelOut = true := rfl

theorem updateStatus_fo (st : Status) (tag : Option String) (s : St) : (updateStatus st tag s).2.fuelOut = s.fuelOut := by
  rw [updateStatus, run_modify]
  by_cases h : (s.status == Status.cancelled) = true
  · rw [if_pos h]
  · rw [if_neg h]
    by_cases h1 : (st == Status.modified) = true <;> by_cases h2 : (st != Status.notModified) = true
    · rw [if_pos h1, if_pos h2]
    · rw [if_pos h1, if_neg h2]
    · rw [if_neg h1, if_pos h2]
    · rw [if_neg h1, if_neg h2]

/-- the end of an arm that replaces the rebuilt node: fuel that is not out afterwards was not out before -/
theorem finish_fo {root : Bool} {x : Node} {st : Status} {tag : Option String} {s2 s1 : St} (t2 : TS s2 s1)
    (h : ((if root = true then do resetCounter; pure x else pure x : M Node) (updateStatus st tag s2).2).2.fuelOut = false) :
    s1.fuelOut = false :=
  t2.fo ((updateStatus_fo st tag s2).symm.trans ((finish_TS root x _).fo h))

/-- node kinds the operation visitor only rebuilds around their visited children -/
def rebuilt (cfg : Config) : Node → Bool
  | .ident .. | .block .. | .arrow .. | .optChain .. | .call .. => false
  | .unary op _ _ => !isDelete op
  | .bin op _ _ _ => !(cfg.plusEnabled && op == "+")
  | .assign op _ _ _ => !(cfg.plusEnabled && op == "+=")
  | .tpl .. => !cfg.tplEnabled
  | _ => true

theorem visit_rebuilt (cfg : Config) (f : Nat) (root : Bool) (n : Node) (s : St) (h : rebuilt cfg n = true) :
    ∃ r, (visit cfg (f + 1) root n s).1 = (mapKidsM mapM' (visit cfg f r) n s).1 ∧
      TS (visit cfg (f + 1) root n s).2 (mapKidsM mapM' (visit cfg f r) n s).2 := by
  have same : visit cfg (f + 1) root n s = mapKidsM mapM' (visit cfg f root) n s →
      ∃ r, (visit cfg (f + 1) root n s).1 = (mapKidsM mapM' (visit cfg f r) n s).1 ∧
        TS (visit cfg (f + 1) root n s).2 (mapKidsM mapM' (visit cfg f r) n s).2 :=
    fun e => ⟨root, by rw [e], by rw [e]; exact TS.refl _⟩
  have fin : ∀ K : Node × St, visit cfg (f + 1) root n s =
        (if root = true then do resetCounter; pure K.1 else pure K.1 : M Node) K.2 →
      (visit cfg (f + 1) root n s).1 = K.1 ∧ TS (visit cfg (f + 1) root n s).2 K.2 :=
    fun K e => ⟨by rw [e, finish_fst], by rw [e]; exact finish_TS root _ _⟩
  cases n with
  | ident | block | arrow | optChain | call => cases h
  | unary op a sp =>
    have hd : ¬ isDelete op = true := by simpa [rebuilt] using h
    exact same (by rw [visit, if_neg hd])
  | bin op l r sp =>
    by_cases hp : cfg.plusEnabled = true
    · have ho : ¬ (op == "+") = true := by simpa [rebuilt, hp] using h
      exact ⟨false, fin _ (by rw [visit, if_pos hp, run_bind, if_neg ho, run_bind, run_pure])⟩
    · exact same (by rw [visit, if_neg hp])
  | assign op l r sp =>
    by_cases hp : cfg.plusEnabled = true
    · have ho : ¬ (op == "+=") = true := by simpa [rebuilt, hp] using h
      exact ⟨false, fin _ (by rw [visit, if_pos hp, run_bind, if_neg ho, run_bind, run_pure])⟩
    · exact same (by rw [visit, if_neg hp])
  | tpl es qs sp =>
    have hp : ¬ cfg.tplEnabled = true := by simpa [rebuilt] using h
    exact same (by rw [visit, if_neg hp])
  | _ => exact same rfl

theorem mapVisit_forall2 (cfg : Config) (ok : String → Bool) (hcfg : CfgOk ok cfg) {P : Node → Node → Prop} (f : Nat) (r : Bool)
    (hP : ∀ (k : Node) (s : St), ns k = 0 → targetsOk k = true → StOk s → (visit cfg f r k s).2.fuelOut = false →
      P k (visit cfg f r k s).1) :
    ∀ (ks : List Node) (s : St), nsL ks = 0 → (∀ k ∈ ks, targetsOk k = true) → StOk s →
      (mapM' (visit cfg f r) ks s).2.fuelOut = false → Forall2 P ks (mapM' (visit cfg f r) ks s).1 := by
  have hv : VHyp ok (visit cfg f r) := fun k s h0 ht hs => visit_spec ok cfg hcfg f r k s h0 ht hs
  intro ks
  induction ks with
  | nil => intro s _ _ _ _; exact trivial
  | cons k ks ihk =>
    intro s hz htk hs hfo
    simp only [nsL_cons] at hz
    simp only [mapM', run_bind, run_pure] at hfo ⊢
    have hs1 := (hv k s (by omega) (htk k (by simp)) hs).2.1.stOk hs
    have hrest := mapVisit_spec ok _ hv ks (visit cfg f r k s).2 (by omega) (fun x hx => htk x (by simp [hx])) hs1
    exact ⟨hP k s (by omega) (htk k (by simp)) hs (hrest.2.1.fo hfo),
      ihk _ (by omega) (fun x hx => htk x (by simp [hx])) hs1 hfo⟩

theorem toDdArrow_arrow (ps : List Node) (b : Node) (a : String) (sp : Span) :
    ∃ b', (toDdArrow (.arrow ps b a sp)).getD (.arrow ps b a sp) = .arrow ps b' a sp := by
  simp only [toDdArrow]
  split <;> exact ⟨_, rfl⟩

theorem visit_ind (cfg : Config) (ok : String → Bool) (hcfg : CfgOk ok cfg) {P : Node → Node → Prop}
    (hident : ∀ nm sp, P (.ident nm sp) (.ident nm sp))
    (hblock : ∀ ss sp, P (.block ss sp) (.block ss sp))
    (harrow : ∀ ps b a sp, P (.arrow ps b a sp) ((toDdArrow (.arrow ps b a sp)).getD (.arrow ps b a sp)))
    (hdelete : ∀ op a sp, isDelete op = true → P (.unary op a sp) (.unary op a sp))
    (htplLit : ∀ es qs sp, cfg.tplEnabled = true → (!es.isEmpty && es.all (fun e => !e.isLit)) = false →
      P (.tpl es qs sp) (.tpl es qs sp))
    (hplain : ∀ n ks', rebuilt cfg n = true → Forall2 P n.kids ks' → P n (n.withKids ks'))
    (hbin : ∀ l r sp l' r' s, cfg.plusEnabled = true → P l l' → P r r' →
      P (.bin "+" l r sp) ((toDdBinary cfg (.bin "+" l' r' sp) s).1.getD (.bin "+" l' r' sp)))
    (hasg : ∀ l r sp l' r' s, cfg.plusEnabled = true → tshape l' = true → P l l' → P r r' →
      P (.assign "+=" l r sp) ((toDdAssign cfg (.assign "+=" l' r' sp) s).1.getD (.assign "+=" l' r' sp)))
    (htpl : ∀ es qs sp ks' s, cfg.tplEnabled = true → (!es.isEmpty && es.all (fun e => !e.isLit)) = true →
      Forall2 P (es ++ qs) ks' →
      P (.tpl es qs sp) ((toDdTpl cfg (.tpl (ks'.take es.length) (ks'.drop es.length) sp) s).1.getD
        (.tpl (ks'.take es.length) (ks'.drop es.length) sp)))
    (hcallKeep : ∀ c as sp c' as' s, P c c' → Forall2 P as as' → hookName? (.call c' as' sp) = none →
      (∃ f0 s0, c' = (visit cfg f0 false c s0).1) →
      (isNonExprCallee c' = true ∨ (toDdCall cfg (.call c' as' sp) s).1 = none) → P (.call c as sp) (.call c' as' sp))
    (hcallSome : ∀ c as sp c' as' s e tag, P c c' → Forall2 P as as' → hookName? (.call c' as' sp) = none →
      (∃ f0 s0, c' = (visit cfg f0 false c s0).1) →
      (toDdCall cfg (.call c' as' sp) s).1 = some (e, tag) → P (.call c as sp) e)
    (hopt : ∀ o b sp f0 s ks',
      Forall2 P ((toDdCond cfg f0 (.optChain o b sp) s).1.2.getD (toDdCond cfg f0 (.optChain o b sp) s).1.1).kids ks' →
      P (.optChain o b sp)
        (((toDdCond cfg f0 (.optChain o b sp) s).1.2.getD (toDdCond cfg f0 (.optChain o b sp) s).1.1).withKids ks')) :
    ∀ (f : Nat) (root : Bool) (n : Node) (s : St), ns n = 0 → targetsOk n = true → StOk s →
      (visit cfg f root n s).2.fuelOut = false → P n (visit cfg f root n s).1 := by
  intro f
  induction f with
  | zero =>
    intro root n s _ _ _ hfo
    simp only [visit, run_bind, run_pure] at hfo
    rw [outOfFuel_fo] at hfo; cases hfo
  | succ f ih =>
    intro root n s h0 ht hs hfo
    have hv : ∀ r, VHyp ok (visit cfg f r) := fun r k s h0 ht hs => visit_spec ok cfg hcfg f r k s h0 ht hs
    have hkids : ∀ (r : Bool) (ks : List Node) (s : St), nsL ks = 0 → (∀ k ∈ ks, targetsOk k = true) → StOk s →
        (mapM' (visit cfg f r) ks s).2.fuelOut = false → Forall2 P ks (mapM' (visit cfg f r) ks s).1 :=
      fun r => mapVisit_forall2 cfg ok hcfg f r (ih r)
    -- a node rebuilt around its visited children
    have hgen : ∀ (r : Bool) (n : Node) (s : St), ns n = 0 → targetsOk n = true → StOk s →
        ∃ ks' s1, mapKidsM mapM' (visit cfg f r) n s = (n.withKids ks', s1) ∧ goodL ok true ks' = true ∧
          Forall2 Shp n.kids ks' ∧ (s1.fuelOut = false → Forall2 P n.kids ks') := by
      intro r n s h0 ht hs
      obtain ⟨g, _, p⟩ := mapVisit_spec ok _ (hv r) n.kids s (nsL_kids_of_ns0 h0) (targetsOk_kids ht) hs
      exact ⟨_, _, rfl, g, p, hkids r n.kids s (nsL_kids_of_ns0 h0) (targetsOk_kids ht) hs⟩
    by_cases hreb : rebuilt cfg n = true
    · obtain ⟨r, h1, h2⟩ := visit_rebuilt cfg f root n s hreb
      obtain ⟨ks', s1, hK, _, _, hP⟩ := hgen r n s h0 ht hs
      rw [h1, hK]
      rw [hK] at h2
      exact hplain n ks' hreb (hP (h2.fo hfo))
    · cases n with
      | ident nm sp => exact hident nm sp
      | block ss sp => exact hblock ss sp
      | arrow ps b a sp => exact harrow ps b a sp
      | unary op a sp =>
        have hd : isDelete op = true := by simpa [rebuilt] using hreb
        rw [visit_unary, if_pos hd]
        exact hdelete op a sp hd
      | bin op l r sp =>
        obtain ⟨hpe, rfl⟩ : cfg.plusEnabled = true ∧ op = "+" := by simpa [rebuilt] using hreb
        have hP := hkids false (Node.bin "+" l r sp).kids s (nsL_kids_of_ns0 h0) (targetsOk_kids ht) hs
        obtain ⟨l', r', s1, hk, gl, gr, -⟩ := kids_two ok _ (hv false) _ s h0 ht hs rfl
        rw [hk] at hP
        rw [visit_bin_run cfg f root hpe "+" l r sp s hk, if_pos (beq_self_eq_true _)] at hfo ⊢
        have t2 := (toDdBinary_spec ok true cfg "+" l' r' sp s1 gl gr (hcfg.1 hpe)).1
        have hP := hP (finish_fo t2 hfo)
        rw [finish_fst]
        exact hbin l r sp l' r' s1 hpe hP.1 hP.2.1
      | assign op l r sp =>
        obtain ⟨hpe, rfl⟩ : cfg.plusEnabled = true ∧ op = "+=" := by simpa [rebuilt] using hreb
        have hP := hkids false (Node.assign "+=" l r sp).kids s (nsL_kids_of_ns0 h0) (targetsOk_kids ht) hs
        obtain ⟨l', r', s1, hk, gl, gr, -, pl, -⟩ := kids_two ok _ (hv false) _ s h0 ht hs rfl
        rw [hk] at hP
        rw [visit_assign_run cfg f root hpe "+=" l r sp s hk, if_pos (beq_self_eq_true _)] at hfo ⊢
        have hts : tshape l' = true := pl.1 (targetsOk_self ht)
        have t2 := (toDdAssign_spec ok true cfg "+=" l' r' sp s1 gl gr hts (hcfg.1 hpe)).1
        have hP := hP (finish_fo t2 hfo)
        rw [finish_fst]
        exact hasg l r sp l' r' s1 hpe hts hP.1 hP.2.1
      | tpl es qs sp =>
        have hte : cfg.tplEnabled = true := by simpa [rebuilt] using hreb
        by_cases hc : (!es.isEmpty && es.all (fun e => !e.isLit)) = true
        · have hP := hkids false (Node.tpl es qs sp).kids s (nsL_kids_of_ns0 h0) (targetsOk_kids ht) hs
          obtain ⟨ks', s1, hk, g, -⟩ := kids_run ok _ (hv false) (.tpl es qs sp) s h0 ht hs
          rw [hk] at hP
          rw [visit_tpl_run cfg f root hte es qs sp s hc hk] at hfo ⊢
          obtain ⟨g1, g2⟩ := goodL_take_drop ok true ks' es.length g
          have t2 := (toDdTpl_spec ok true cfg (ks'.take es.length) (ks'.drop es.length) sp s1 g1 g2 (hcfg.2.1 hte)).1
          have hP := hP (finish_fo t2 hfo)
          rw [finish_fst]
          exact htpl es qs sp ks' s1 hte hc hP
        · rw [visit_tpl, if_pos hte, if_neg hc]
          exact htplLit es qs sp hte (Bool.eq_false_iff.2 hc)
      | call c as sp =>
        have hP := hkids false (Node.call c as sp).kids s (nsL_kids_of_ns0 h0) (targetsOk_kids ht) hs
        obtain ⟨c', as', s1, hk, gc, ga, -⟩ := kids_cons ok _ (hv false) _ s h0 ht hs rfl
        rw [hk] at hP
        rw [visit_call_run cfg f root c as sp s hk] at hfo ⊢
        have hvis : ∃ f0 s0, c' = (visit cfg f0 false c s0).1 :=
          ⟨f, s, (List.cons.inj (congrArg Prod.fst ((mapM'_cons_run _ c as s).symm.trans hk))).1.symm⟩
        have hhk := hookName?_call_none as' sp gc
        by_cases hne : isNonExprCallee c' = true
        · rw [if_pos hne] at hfo ⊢
          have hP := hP ((finish_TS root _ _).fo hfo)
          rw [finish_fst]
          exact hcallKeep c as sp c' as' s1 hP.1 hP.2 hhk hvis (Or.inl hne)
        · rw [if_neg hne] at hfo ⊢
          have t2 := (toDdCall_spec ok true cfg c' as' sp s1 hcfg.2.2 gc ga).1
          have hk := hcallKeep c as sp c' as' s1
          have hsm := hcallSome c as sp c' as' s1
          generalize toDdCall cfg (.call c' as' sp) s1 = X at hfo t2 hk hsm ⊢
          obtain ⟨res, s2⟩ := X
          cases res with
          | none =>
            have hP := hP (t2.fo ((finish_TS root _ _).fo hfo))
            rw [finish_fst]
            exact hk hP.1 hP.2 hhk hvis (Or.inr rfl)
          | some et =>
            obtain ⟨e', tag⟩ := et
            have hP := hP (finish_fo t2 hfo)
            rw [finish_fst]
            exact hsm e' tag hP.1 hP.2 hhk hvis rfl
      | optChain o b sp =>
        rw [visit_optChain, run_bind] at hfo ⊢
        have hn := toDdCond_next cfg f (.optChain o b sp) s h0 ht
        have ho := hopt o b sp f s
        generalize toDdCond cfg f (.optChain o b sp) s = C at hfo hn ho ⊢
        obtain ⟨⟨e', res⟩, s1⟩ := C
        obtain ⟨z2, b2, t⟩ := hn
        dsimp only at hfo ho z2 b2 t ⊢
        obtain ⟨ks', s2, hK, _, _, hP⟩ := hgen false (res.getD e') s1 z2 b2 ((Eff.of_TS t).stOk hs)
        rw [run_bind, hK] at hfo ⊢
        rw [finish_fst]
        exact ho ks' (hP ((finish_TS root _ _).fo hfo))
      | _ => exact absurd rfl hreb

end IastModel
