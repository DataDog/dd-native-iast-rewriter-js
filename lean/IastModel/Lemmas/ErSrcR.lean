import IastModel.Lemmas.ErArms
/-
  A well-formed source tree — also after nested blocks have been replaced by blocks that erase to
  them — erases to itself: the base case of the visitor theorem (identifiers, untouched blocks,
  operands of `delete`, arrow functions with a block body, anything reached without fuel).
-/
namespace IastModel
open Node

theorem KL_of_forall {lo hi : Nat} : ∀ (ks : List Node), (∀ k ∈ ks, EVC lo hi k k) → KL lo hi ks ks := by
  intro ks
  induction ks with
  | nil => intro _; simp [KL, Forall2]
  | cons k ks ih =>
    intro h
    simp only [KL, Forall2]
    exact ⟨h k (by simp), ih (fun x hx => h x (by simp [hx]))⟩

theorem srcOk_returnStmt {b : Node} (h : srcOk b = true) : srcOk (returnStmt b) = true := by
  rw [srcOk_eq]
  simp [returnStmt, srcNode, srcOkL, kids, h]

/-- what `erase` makes of an arrow function once its parameters and body are erased -/
def arrowOut (ps : List Node) (Xb : Node) (at' : String) (sp : Span) : Node :=
  match Xb with
  | .block [.other "ReturnStatement" rsp ["argument"] [e']] bsp =>
    if bsp.isDummy && rsp.isDummy then Node.arrow ps e' at' sp else Node.arrow ps Xb at' sp
  | _ => Node.arrow ps Xb at' sp

theorem erase_arrow (σ : Env) (ps : List Node) (b : Node) (at' : String) (sp : Span) :
    erase σ (.arrow ps b at' sp) =
      (arrowOut (eraseL σ ps).1 (erase (eraseL σ ps).2 b).1 at' sp, (erase (eraseL σ ps).2 b).2) := by
  simp only [erase, arrowOut]
  split <;> (try split) <;> simp_all

/-- the erased body of an arrow function is taken for an injected `{ return e }` only if it is one -/
theorem arrowOut_keep (ps : List Node) (at' : String) (sp : Span) (Xb : Node)
    (h : looksInjectedBody Xb = false) : arrowOut ps Xb at' sp = Node.arrow ps Xb at' sp := by
  unfold looksInjectedBody at h
  split at h
  · unfold arrowOut
    show (if _ then _ else _) = _
    rw [if_neg (by rw [h]; exact Bool.false_ne_true)]
  · rename_i hne
    unfold arrowOut
    split
    · exact absurd rfl (hne _ _ _)
    · rfl

/-- a source arrow function (block body or expression body, before the visitor touches it) -/
theorem arrow_src_VC (ps : List Node) (b : Node) (at' : String) (sp : Span) (hs : srcOk (.arrow ps b at' sp) = true)
    (lo hi : Nat) (hps : KL lo hi ps ps) (hb : EVC lo hi b b) : EVC lo hi (.arrow ps b at' sp) (.arrow ps b at' sp) := by
  have hsb : srcOk b = true := srcOk_kids hs b (by simp [kids])
  have h0 : looksInjectedBody b = false := by
    have := srcOk_self hs; simpa [srcNode] using this
  refine ⟨?_, Or.inl rfl, by simp [Deep], rfl, by simp [Node.isIdent]⟩
  intro m hbr σ
  obtain ⟨ps'', b'', rfl, hps'', hb''⟩ := hbr.arrow_inv
  obtain ⟨Xs, Δ1, e1, s1, w1⟩ := eraseL_KL hps ps'' hps'' σ
  -- the erased body, and why it is not taken for an injected one
  have hbody : ∃ Xb Δ2, erase (Δ1 ++ σ) b'' = (Xb, Δ2 ++ (Δ1 ++ σ)) ∧ ESim Xb b ∧ Win lo hi Δ2 ∧ looksInjectedBody Xb = false := by
    by_cases hblk : isBlockNode b = true
    · obtain ⟨ss, bsp, rfl⟩ := eq_block_of_isBlockNode hblk
      rcases hb''.block_inv with rfl | ⟨ss', rfl, hg⟩
      · refine ⟨.block ss bsp, [], by rw [erase_src _ hsb]; rfl, ⟨rfl, Or.inl rfl, by simp [noSp, unSpread]⟩, Win.nil _ _, h0⟩
      · obtain ⟨es, ee, hsim⟩ := hg (Δ1 ++ σ)
        refine ⟨.block es bsp, [], by rw [ee]; rfl, ⟨by simp only [strip, hsim.1], Or.inl rfl, by simp [noSp, unSpread]⟩, Win.nil _ _, ?_⟩
        -- same statements up to positions, same statement positions: same verdict
        unfold looksInjectedBody at h0 ⊢
        split
        · rename_i rsp e' bsp2 heq
          simp only [block.injEq] at heq
          obtain ⟨rfl, rfl⟩ := heq
          have hst := hsim.1
          have hsp := hsim.2
          cases ss with
          | nil => simp [stripL] at hst
          | cons s0 rest =>
            cases rest with
            | cons _ _ => simp [stripL] at hst
            | nil =>
              simp only [stripL, List.cons.injEq, and_true] at hst
              simp only [List.map_cons, List.map_nil, List.cons.injEq, and_true, Node.span] at hsp
              simp only [strip] at hst
              obtain ⟨sp2, vs2, rfl, hvs⟩ := strip_eq_other hst.symm
              simp only [Node.span] at hsp
              subst hsp
              cases vs2 with
              | nil => simp [stripL] at hvs
              | cons v0 vrest =>
                cases vrest with
                | cons _ _ => simp [stripL] at hvs
                | nil => simpa using h0
        · rfl
    · obtain ⟨Xb, Δ2, e2, s2, w2⟩ := hb.1 b'' hb'' (Δ1 ++ σ)
      refine ⟨Xb, Δ2, e2, s2, w2, ?_⟩
      have hst := s2.1
      cases Xb with
      | block es bsp =>
        exfalso
        cases b <;> simp [strip] at hst
        simp [isBlockNode] at hblk
      | _ => rfl
  obtain ⟨Xb, Δ2, e2, s2, w2, hk⟩ := hbody
  refine ⟨.arrow Xs Xb at' sp, Δ2 ++ Δ1, ?_, ?_, w2.append w1⟩
  · rw [erase_arrow, e1]
    simp only
    rw [e2]
    simp only [arrowOut_keep Xs at' sp Xb hk, List.append_assoc]
  · exact ⟨by simp only [strip, Forall2_Sim_strip s1, s2.1], Or.inl rfl, by simp [noSp, unSpread]⟩

/-- **a well-formed source tree, with or without good replacements of its nested blocks, erases to itself** -/
theorem EVC.src (lo hi : Nat) : ∀ n : Node, srcOk n = true → EVC lo hi n n := by
  apply Node.ind
  intro n ih hs
  have hsk := srcOk_kids hs
  have hkl : KL lo hi n.kids n.kids := KL_of_forall n.kids (fun k hk => ih k hk (hsk k hk))
  have hgen : genK n = true → EVC lo hi n n := by
    intro hg
    have := genAll_VC n hs hg lo hi n.kids hkl
    rwa [Node.withKids_kids] at this
  cases n with
  | block ss sp =>
    refine ⟨?_, Or.inl rfl, by simp [Deep], rfl, by simp [Node.isIdent]⟩
    intro m hb σ
    rcases hb.block_inv with rfl | ⟨ss', rfl, hg⟩
    · exact ⟨.block ss sp, [], by rw [erase_src _ hs]; rfl, ⟨rfl, Or.inl rfl, by simp [noSp, unSpread]⟩, Win.nil _ _⟩
    · obtain ⟨es, ee, hsim⟩ := hg σ
      exact ⟨.block es sp, [], by rw [ee]; rfl, ⟨by simp only [strip, hsim.1], Or.inl rfl, by simp [noSp, unSpread]⟩, Win.nil _ _⟩
  | ident nm isp =>
    refine ⟨?_, Or.inl rfl, by simp [Deep], rfl, fun _ => rfl⟩
    intro m hb σ
    rw [BRg_noBlk (noBlk_ident _ _) hb]
    exact ⟨_, [], by rw [erase_src _ hs]; rfl, ⟨rfl, Or.inl rfl, noSp_src _ hs⟩, Win.nil _ _⟩
  | arrow ps b at' sp =>
    exact arrow_src_VC ps b at' sp hs lo hi (KL_of_forall ps (fun k hk => ih k (by simp [kids, hk]) (hsk k (by simp [kids, hk]))))
      (ih b (by simp [kids]) (hsk b (by simp [kids])))
  | assign op l r sp => exact assign_VC hs (ih l (by simp [kids]) (hsk l (by simp [kids]))) (ih r (by simp [kids]) (hsk r (by simp [kids])))
  | call c as sp =>
    exact call_VC hs (ih c (by simp [kids]) (hsk c (by simp [kids])))
      (KL_of_forall as (fun k hk => ih k (by simp [kids, hk]) (hsk k (by simp [kids, hk]))))
  | tpl es qs sp =>
    have hq : noBlkL qs = true := by
      have h0 := srcOk_self hs
      simp only [srcNode] at h0
      unfold noBlkL
      rw [List.all_eq_true]
      intro q hq
      exact inertT_noBlk q (List.all_eq_true.mp h0 q hq)
    exact tpl_VC (KL_of_forall es (fun k hk => ih k (by simp [kids, hk]) (hsk k (by simp [kids, hk])))) hq
  | _ => exact hgen rfl

theorem EVC.srcL (lo hi : Nat) (ks : List Node) (h : ∀ k ∈ ks, srcOk k = true) : KL lo hi ks ks :=
  KL_of_forall ks (fun k hk => EVC.src lo hi k (h k hk))

end IastModel
