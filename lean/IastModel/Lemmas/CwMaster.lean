import IastModel.Lemmas.CwBlock
/-
  C03 for the whole pipeline (`hooks_mirror_master`): a source program has no hook site, the visitors add none that is
  not `RobustOK`, so every hook site of the output mirrors its operation.
-/
namespace IastModel
open Node

/-- a tree that does not mention the namespace contains no hook call -/
theorem cq_of_ns0 (q : Node → Bool) : ∀ n : Node, ns n = 0 → cq q n = 0 :=
  count_of_ns0 fun _ h => isBadHook_of_none q h

/-- no counted site ⇒ every hook site of the tree fails `q` -/
theorem cq_zero_hooks (q : Node → Bool) : ∀ n : Node, cq q n = 0 → ∀ h ∈ hooks n, q h = false := by
  apply Node.ind
  intro n ih h0 h hh
  rw [cq_eq] at h0
  rw [hooks_eq] at hh
  have hL : ∀ l : List Node, (∀ k ∈ l, k ∈ n.kids) → cqL q l = 0 → h ∈ hooksL l → q h = false := by
    intro l
    induction l with
    | nil => intro _ _ hm; simp at hm
    | cons x xs ihl =>
      intro hm hz hmem
      simp only [cqL_cons] at hz
      simp only [hooksL_cons, List.mem_append] at hmem
      rcases hmem with hmem | hmem
      · exact ih x (hm x (by simp)) (by omega) h hmem
      · exact ihl (fun k hk => hm k (by simp [hk])) (by omega) hmem
  simp only [List.mem_append] at hh
  rcases hh with hh | hh
  · by_cases hi : isHook n = true
    · simp only [hi, if_true, List.mem_singleton] at hh
      subst hh
      cases hq : q h
      · rfl
      · simp [isBadHook, hi, hq] at h0
    · simp [hi] at hh
  · exact hL n.kids (fun k hk => hk) (by omega) hh

/-- **Every hook call of the instrumented program mirrors the operation in its first argument.**  For
    every configuration, fuel and program (hypotheses as in `master`), unless the rewrite is refused: every
    hook call site `h` of the output is accepted by the specification `argsMirrorSite` — (result, left,
    right) for `+`/`+=`, (result, substitutions…) for templates, (result, function, receiver, arguments…)
    for method calls, `apply` arrays element by element, spreads re-spread — or is classified as the recorded
    omission: a `+` chain that is not made of literals only is among the operands and was not passed on. -/
theorem hooks_mirror_master (cfg : Config) (fuel : Nat) (p : Node) (h0 : ns p = 0) (ht : targetsOk p = true)
    (hnc : (transformProgram cfg fuel p).status ≠ .cancelled) :
    ∀ h ∈ hooks (transformProgram cfg fuel p).out, MirOK cfg h := by
  obtain ⟨hfin, _, _, hout, _⟩ := transformProgram_run cfg fuel p hnc
  have hs0 : StOk ({} : St) := by intro h; cases h
  have hcfg := cfgOk_dsts cfg
  have hhooks : hooks (transformProgram cfg fuel p).out = hooks (mapKidsM mapM' (blockVisit cfg fuel fuel) p {}).1 := by
    rw [hout]
    split
    · rw [hooks_insertPrologue _ _ (hooks_prologue cfg.dsts)]
    · rfl
  rw [hhooks]
  suffices hz : cw cfg (mapKidsM mapM' (blockVisit cfg fuel fuel) p {}).1 = 0 by
    intro h hh
    exact (robust_of_notRobust_false (cq_zero_hooks _ _ hz h hh)).ok
  simp only [mapKidsM, run_bind, run_pure] at hfin ⊢
  have hlist := mapBlock_rel (p := isBadHook (notRobust cfg)) (R := fun _ _ a b => ZZ a b)
    (CRel.ofWeights ZZ.refl ZZ.trans ZZ.add) (okCfg cfg) (blockVisit cfg fuel fuel)
    (fun k s hs hg => blockVisit_W (okCfg cfg) cfg hcfg fuel fuel k s hs hg)
    (fun k s h => blockVisit_canc cfg fuel fuel k s h)
  have hspec := mapBlock_spec (okCfg cfg) (blockVisit cfg fuel fuel)
    (fun k s hs hg => blockVisit_spec (okCfg cfg) cfg hcfg fuel fuel k s hs hg)
    (fun k s h => blockVisit_canc cfg fuel fuel k s h)
  have hk : goodL (okCfg cfg) true p.kids = true := goodL_kids_of_ns0 _ h0 ht
  have hkz : cwL cfg p.kids = 0 := by
    have := cq_of_ns0 (notRobust cfg) p h0
    rw [cq_eq] at this
    simp only [cwL]; omega
  have e3 : cwL cfg (mapM' (blockVisit cfg fuel fuel) p.kids {}).1 = 0 := hlist p.kids {} hs0 hk hfin hkz
  obtain ⟨g3, l3, _⟩ := hspec p.kids {} hs0 hk hfin
  rw [cw_eq', Node.kids_withKids p _ l3, e3]
  have hterm : isBadHook (notRobust cfg) (p.withKids (mapM' (blockVisit cfg fuel fuel) p.kids {}).1) = false := by
    have := hookName?_mapBlocks cfg (okCfg cfg) hcfg fuel fuel p {} (hookName?_of_ns0 h0) hs0 hk
      (by simpa only [mapKidsM, run_bind, run_pure] using hfin)
    simp only [mapKidsM, run_bind, run_pure] at this
    exact isBadHook_of_none _ this
  simp [hterm]

end IastModel
