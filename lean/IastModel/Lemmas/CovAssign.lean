import IastModel.Lemmas.CovLemmas
namespace IastModel
open Node

/-- neither a literal nor a binary expression: never a sum of literals, never an un-instrumented `+` chain -/
def plainOperand (n : Node) : Bool := !n.isLit && !isBinNode' n
where isBinNode' : Node → Bool
  | .bin .. => true
  | _ => false

theorem plainOperand_props {n : Node} (h : plainOperand n = true) : isLiteralSum n = false ∧ nlSum n = false := by
  rw [plainOperand, Bool.and_eq_true, Bool.not_eq_true', Bool.not_eq_true'] at h
  have h1 : isLiteralSum n = false := by
    unfold isLiteralSum
    split
    · exact absurd h.1 (by simp [Node.isLit])
    · exact absurd h.2 (by simp [plainOperand.isBinNode'])
    · rfl
  have h2 : isPlusSum n = false := by
    unfold isPlusSum
    split
    · exact absurd h.2 (by simp [plainOperand.isBinNode'])
    · rfl
  exact ⟨h1, by rw [nlSum, h2]; rfl⟩

theorem hoistTargetPart_plain (e : Node) (sp : Span) (s : St) (he : plainOperand (seqOperand e) = true) :
    plainOperand (hoistTargetPart e sp s).1.2 = true := by
  unfold hoistTargetPart
  simp only [run_bind]
  rcases getTemporalIdent_cases (seqOperand e) [] sp .expr s with ⟨hl, h⟩ | ⟨hl, n, s', h, _⟩
  · rw [h]; simp only [run_pure]; exact he
  · rw [h]
    simp only [List.nil_append, List.getLast?_singleton, run_pure]
    rfl

/-- the operand that `+=` reads back is never a literal or a binary expression -/
theorem splitMemberTarget_plain (sp : Span) : ∀ (left : Node), tshape left = true →
    ∀ s, plainOperand (splitMemberTarget left sp s).1.2 = true := by
  apply Node.ind
  intro left ih hts s
  unfold tshape at hts
  split at hts
  · simp only [splitMemberTarget, run_pure]; rfl
  · rename_i obj prop msp
    simp only [splitMemberTarget]
    split
    · split
      · simp only [run_bind, run_pure]; rfl
      · simp only [run_bind, run_pure]; rfl
    · simp only [run_pure]; rfl
  · rename_i ssp sp2 n2 prop
    simp only [splitMemberTarget]
    split
    · simp only [run_bind, run_pure]; rfl
    · simp only [run_pure]; rfl
  · rename_i e psp
    simp only [splitMemberTarget]
    split
    · simp only [run_bind, run_pure]
      exact ih e (by simp [kids]) hts s
    · simp only [run_pure]; rfl
  · cases hts

theorem assignRhs_notPlus (r : Node) : isPlusSum (assignRhs r) = false := by
  unfold assignRhs
  split
  · rfl
  · rename_i h
    cases r with
    | bin op a b sp =>
      by_cases hop : op = "+"
      · subst hop; exact absurd rfl (h a b sp)
      · rw [isPlusSum_bin]; simpa using hop
    | _ => rfl

/-- `target += r` is always instrumented (for a parser-shaped, non-pattern target) -/
theorem toDdAssign_some (cfg : Config) (op : String) (left r : Node) (sp : Span) (s : St)
    (hts : tshape left = true) (hnp : isPatternTarget left = false) :
    (toDdAssign cfg (.assign op left r sp) s).1.isSome = true := by
  simp only [toDdAssign, hnp, Bool.false_eq_true, if_false, run_bind]
  have h1 := splitMemberTarget_plain sp left hts s
  generalize splitMemberTarget left sp s = R1 at h1
  obtain ⟨⟨target, operand⟩, s1⟩ := R1
  simp only at h1 ⊢
  have h2 := toDdBinary_none cfg operand (assignRhs r) sp s1
  generalize toDdBinary cfg (.bin "+" operand (assignRhs r) sp) s1 = R2 at h2
  obtain ⟨res, s2⟩ := R2
  cases res with
  | none =>
    exfalso
    have hp := plainOperand_props h1
    have hr : nlSum (assignRhs r) = false := by simp [nlSum, assignRhs_notPlus]
    have := (h2 rfl hp.2 hr).1
    rw [hp.1] at this; cases this
  | some e1 => simp [run_pure]

theorem tshape_notPattern {n : Node} (h : tshape n = true) : isPatternTarget n = false := by
  unfold tshape at h
  split at h
  · rfl
  · rfl
  · show ("SuperPropExpression" == "ArrayPattern" || "SuperPropExpression" == "ObjectPattern" ||
      "SuperPropExpression" == "Invalid") = false
    decide
  · rfl
  · cases h

end IastModel
