import IastModel.Lemmas.TrSpec
/-
  What the two link handlers of the optional-chain lowering return, as equations: every fact about
  `getCallFromBaseCall` / `getMemberFromBaseMember` is read off these.
-/
namespace IastModel
open Node

theorem isEmpty_snoc (l : List Node) (x : Node) : (l ++ [x]).isEmpty = false := by
  cases l <;> rfl

/-- `get_call_from_base_call`: nothing; the call as it is; `t1.call(t0, args)` after `t0 = obj, t1 = t0.m`;
    or `t0(args)` after `t0 = callee` -/
theorem getCallFromBaseCall_shape (callee : Node) (args : List Node) (optional : Bool) (oc : OcSt) (s : St) :
    let R := getCallFromBaseCall callee args optional oc s
    R = ((none, oc), s) ∨
    (optional = false ∧ R = ((some (.call callee args Span.dummy), oc), s)) ∨
    (∃ mobj mprop msp t0 t1 s', callee = .member mobj mprop msp ∧ TS s' s ∧
      R = ((some (.call (.member (tempIdent t1) (.pname Generated.callMethodName Span.dummy) Span.dummy)
              (.arg none (tempIdent t0) :: args) Span.dummy),
            { oc with newIdent := some t1, assignments := oc.assignments ++ [.assign "=" (tempIdent t0) mobj Span.dummy,
                .assign "=" (tempIdent t1) (.member (tempIdent t0) mprop Span.dummy) Span.dummy] }), s')) ∨
    (∃ t0 s', TS s' s ∧
      R = ((some (.call (tempIdent t0) args Span.dummy),
            { oc with newIdent := some t0,
                      assignments := oc.assignments ++ [.assign "=" (tempIdent t0) callee Span.dummy] }), s')) := by
  unfold getCallFromBaseCall
  cases optional with
  | false => exact Or.inr (Or.inl ⟨rfl, rfl⟩)
  | true =>
    rw [if_pos rfl]
    split
    · rename_i mobj mprop msp
      simp only [oc_bind, oc_get, oc_set, oc_lift]
      rcases getIdentUsed_cases mobj oc.assignments [] Span.dummy .expr s with ⟨_, h1⟩ | ⟨_, t0, s1, h1, ts1⟩
      · rw [h1]; exact Or.inl rfl
      · rw [h1]
        simp only [oc_bind, oc_lift, oc_modify]
        rcases getIdentUsed_cases (Node.member (tempIdent t0) mprop Span.dummy)
            (oc.assignments ++ [.assign "=" (tempIdent t0) (assignRight mobj .expr) Span.dummy]) [] Span.dummy .expr s1
          with ⟨hl, _⟩ | ⟨_, t1, s2, h2, ts2⟩
        · cases hl
        · rw [h2]
          refine Or.inr (Or.inr (Or.inl ⟨mobj, mprop, msp, t0, t1, s2, rfl, ts2.trans ts1, ?_⟩))
          simp only [oc_bind, oc_modify, oc_pure, assignRight, List.append_assoc, List.cons_append, List.nil_append]
    · simp only [oc_bind, oc_get, oc_set, oc_lift]
      rcases getIdentUsed_cases callee oc.assignments [] Span.dummy .expr s with ⟨_, h1⟩ | ⟨_, t0, s1, h1, ts1⟩
      · rw [h1]; exact Or.inl rfl
      · rw [h1]
        refine Or.inr (Or.inr (Or.inr ⟨t0, s1, ts1, ?_⟩))
        simp only [isEmpty_snoc, Bool.false_eq_true, if_false, oc_bind, oc_modify, oc_pure, assignRight]

/-- `get_member_from_base_member`: nothing; the member access as it is; or `t.prop` after `t = obj` -/
theorem getMemberFromBaseMember_shape (obj prop : Node) (msp : Span) (optional : Bool) (oc : OcSt) (s : St) :
    let R := getMemberFromBaseMember obj prop msp optional oc s
    R = ((none, oc), s) ∨
    (optional = false ∧ R = ((some (.member obj prop msp), oc), s)) ∨
    (∃ t s', TS s' s ∧
      R = ((some (.member (tempIdent t) prop Span.dummy),
            { oc with newIdent := some t,
                      assignments := oc.assignments ++ [.assign "=" (tempIdent t) obj Span.dummy] }), s')) := by
  unfold getMemberFromBaseMember
  cases optional with
  | false => exact Or.inr (Or.inl ⟨rfl, rfl⟩)
  | true =>
    simp only [if_true, oc_bind, oc_get, oc_set, oc_lift]
    rcases getIdentUsed_cases obj oc.assignments [] Span.dummy .expr s with ⟨_, h1⟩ | ⟨_, t, s1, h1, ts1⟩
    · rw [h1]; exact Or.inl rfl
    · rw [h1]
      exact Or.inr (Or.inr ⟨t, s1, ts1, by simp only [oc_bind, oc_modify, oc_pure, assignRight]⟩)

end IastModel
