import IastModel.Lemmas.BlockRewrite3
namespace IastModel
open Node

/-- what the rewriter establishes about a hook call `name(first, args…)` when it builds it, in a form
    that survives later rewriting of block statements inside `first` -/
inductive Cert (cfg : Config) : String → Node → List Node → Prop
  | plus (l r : Node) (sp : Span) (args : List Node) :
      Mir args [.arg none l, .arg none r] → Cert cfg cfg.plusName (.bin "+" l r sp) args
  | tpl (es qs : List Node) (sp : Span) (args : List Node) :
      (∀ e ∈ es, isArgNode e = false) → Mir args (es.map mirrorOf) → Cert cfg cfg.tplName (.tpl es qs sp) args
  | bare (name : String) (n : Name) (isp : Span) (cargs : List Node) (csp usp : Span) (P : List Node) :
      Mir P (callArgs cargs) →
      Cert cfg name (.call (.ident n isp) cargs csp) (.arg none (.ident n isp) :: .arg none (.ident (.user "undefined") usp) :: P)
  | call (name : String) (f : Node) (ca : String) (p1 p2 : Span) (cargs : List Node) (p3 : Span) (exp args : List Node) :
      expectedCallArgs (.call (.member f (.pname ca p1) p2) cargs p3) = some exp → Mir args exp →
      Cert cfg name (.call (.member f (.pname ca p1) p2) cargs p3) args

def OKres (cfg : Config) (r : Option String) : Prop :=
  r = none ∨ ∃ w, (w = "plus" ∨ w = "tpl" ∨ w = "call") ∧ r = some (sumClass cfg w)

theorem mirrorTpl_of_Mir (cfg : Config) (es args : List Node) (na : ∀ e ∈ es, isArgNode e = false)
    (hm : Mir args (es.map mirrorOf)) :
    mirrorTpl cfg cfg.tplName es args = none ∨ mirrorTpl cfg cfg.tplName es args = some (sumClass cfg "tpl") := by
  simp only [mirrorTpl, bne_self_eq_false, Bool.false_eq_true, if_false]
  by_cases heq : argsEq args (es.map mirrorOf) = true
  · left; simp [heq]
  · right
    simp only [heq, Bool.false_eq_true, if_false]
    rcases hm with hm | hm
    · exact absurd hm heq
    · have : es.any isNonLiteralSum = true := by
        rw [List.any_eq_true] at hm ⊢
        obtain ⟨a, ha, hs⟩ := hm
        rw [List.mem_map] at ha
        obtain ⟨x, hx, rfl⟩ := ha
        refine ⟨x, hx, ?_⟩
        rw [mirrorOf_notArg (na x hx)] at hs
        simpa [sumArg, argOf] using hs
      simp [this]

theorem cert_ok {cfg : Config} {name : String} {first : Node} {args : List Node} (h : Cert cfg name first args) :
    OKres cfg (argsMirrorFirst cfg name first args) := by
  cases h with
  | plus l r sp args hm =>
    simp only [argsMirrorFirst]
    rcases mirrorPlus_of_Mir cfg l r args hm with h | h
    · exact Or.inl h
    · exact Or.inr ⟨"plus", Or.inl rfl, h⟩
  | tpl es qs sp args na hm =>
    simp only [argsMirrorFirst]
    rcases mirrorTpl_of_Mir cfg es args na hm with h | h
    · exact Or.inl h
    · exact Or.inr ⟨"tpl", Or.inr (Or.inl rfl), h⟩
  | bare name n isp cargs csp usp P hm =>
    simp only [argsMirrorFirst]
    rcases mirrorBare_of_Mir cfg (.ident n isp) cargs P usp hm with h | h
    · exact Or.inl h
    · exact Or.inr ⟨"call", Or.inr (Or.inr rfl), h⟩
  | call name f ca p1 p2 cargs p3 exp args he hm =>
    simp only [argsMirrorFirst]
    rcases mirrorCall_of_Mir cfg _ args exp he hm with h | h
    · exact Or.inl h
    · exact Or.inr ⟨"call", Or.inr (Or.inr rfl), h⟩

theorem Cert.mirOK {cfg : Config} {name : String} {first : Node} {args : List Node} (h : Cert cfg name first args)
    (sp : Span) : MirOK cfg (ddCall first args name sp) := by
  unfold MirOK
  rw [argsMirrorSite_ddCall]
  exact cert_ok h

theorem BR.mirrorOf {a b : Node} (h : BR a b) : BR (mirrorOf a) (mirrorOf b) := by
  by_cases ha : IastModel.isArgNode a = true
  · cases a with
    | arg s e => obtain ⟨e', rfl, he⟩ := h.arg_inv; exact BR.arg_mk s he
    | _ => simp [IastModel.isArgNode] at ha
  · have ha' : IastModel.isArgNode a = false := by simpa using ha
    have hb : IastModel.isArgNode b = false := by rw [h.isArgNode]; exact ha'
    rw [mirrorOf_notArg ha', mirrorOf_notArg hb]
    exact BR.arg_mk none h

/-- the expected argument list of a call-shaped first argument follows the rewriting -/
theorem expected_BR {f f' : Node} {ca : String} {p1 p2 p3 : Span} {cargs cargs' exp : List Node}
    (hf : BR f f') (hc : BRL cargs cargs')
    (he : expectedCallArgs (.call (.member f (.pname ca p1) p2) cargs p3) = some exp) :
    ∃ exp', expectedCallArgs (.call (.member f' (.pname ca p1) p2) cargs' p3) = some exp' ∧ BRL exp exp' := by
  have hca := hc.callArgs
  simp only [expectedCallArgs] at he ⊢
  by_cases h1 : (ca == Generated.callMethodName) = true
  · simp only [h1, if_true, Option.some.injEq] at he ⊢
    subst he
    exact ⟨_, rfl, BRL.cons (BR.arg_mk none hf) hca⟩
  · simp only [h1, Bool.false_eq_true, if_false] at he ⊢
    by_cases h2 : (ca == Generated.applyMethodName) = true
    · simp only [h2, if_true] at he ⊢
      generalize callArgs cargs = A at he hca
      generalize callArgs cargs' = A' at hca ⊢
      cases A with
      | nil => cases he
      | cons this rest =>
        obtain ⟨this', rest', rfl, ht, hr⟩ := BRL.cons_inv hca
        simp only [ht.isSpreadArg] at he ⊢
        split at he
        · rename_i hs
          simp only [hs, if_true, Option.some.injEq] at he ⊢
          subst he
          exact ⟨_, rfl, BRL.cons (BR.arg_mk none hf) (BRL.flatMap (fun _ _ => BR.expandApplyArg) (BRL.cons ht hr))⟩
        · rename_i hs
          simp only [hs, Bool.false_eq_true, if_false, Option.some.injEq] at he ⊢
          subst he
          exact ⟨_, rfl, BRL.cons (BR.arg_mk none hf) (BRL.cons ht (BRL.flatMap (fun _ _ => BR.expandApplyArg) hr))⟩
    · simp [h2] at he

theorem cert_BR {cfg : Config} {name : String} {first first' : Node} {args : List Node}
    (h : Cert cfg name first args) (hn : noBlkL args = true) (hb : BR first first') : Cert cfg name first' args := by
  cases h with
  | plus l r sp args hm =>
    obtain ⟨l', r', rfl, hl, hr⟩ := hb.bin_inv
    exact Cert.plus l' r' sp args (hm.stable hn (BRL.cons (BR.arg_mk none hl) (BRL.cons (BR.arg_mk none hr) BRL.nil)))
  | tpl es qs sp args na hm =>
    obtain ⟨es', qs', rfl, hes, hqs⟩ := hb.tpl_inv
    refine Cert.tpl es' qs' sp args ?_ (hm.stable hn (BRL.map (fun _ _ => BR.mirrorOf) hes))
    intro e he
    obtain ⟨i, hi, rfl⟩ := List.getElem_of_mem he
    have h1 : i < es.length := by rw [hes.1]; exact hi
    rw [(hes.2 i h1 hi).isArgNode]
    exact na _ (List.getElem_mem h1)
  | bare name n isp cargs csp usp P hm =>
    obtain ⟨c', cargs', rfl, hc, hcs⟩ := hb.call_inv
    have : c' = .ident n isp := BR_noBlk _ (by simp) _ hc
    subst this
    simp only [noBlkL_cons, Bool.and_eq_true] at hn
    exact Cert.bare name n isp cargs' csp usp P (hm.stable hn.2.2 hcs.callArgs)
  | call name f ca p1 p2 cargs p3 exp args he hm =>
    obtain ⟨c', cargs', rfl, hc, hcs⟩ := hb.call_inv
    obtain ⟨f', p', rfl, hf, hp⟩ := hc.member_inv
    have : p' = .pname ca p1 := BR_noBlk _ (by simp) _ hp
    subst this
    obtain ⟨exp', he', hbe⟩ := expected_BR hf hcs he
    exact Cert.call name f' ca p1 p2 cargs' p3 exp' args he' (hm.stable hn hbe)

/-- result of a transform: `ddParen first args asg name sp` with a certificate for the hook call -/
def CertRes (cfg : Config) (e' : Node) : Prop :=
  ∃ first args asg name sp, e' = ddParen first args asg name sp ∧ Cert cfg name first args ∧ noBlkL args = true

theorem toDdBinary_certAt (cfg : Config) (l r : Node) (sp : Span) (s : St) :
    ∀ e', (toDdBinary cfg (.bin "+" l r sp) s).1 = some e' →
      ∃ first args asg, e' = ddParen first args asg cfg.plusName sp ∧ Cert cfg cfg.plusName first args ∧
        noBlkL args = true := by
  intro e' he
  simp only [toDdBinary, run_bind] at he
  have p1 := replaceExpr_push l (getIdentMode r) [] [] sp .expr false s
  have n1 := replaceExpr_nb l (getIdentMode r) [] [] sp .expr false s
  generalize replaceExpr l (getIdentMode r) [] [] sp .expr false s = R1 at he p1 n1
  obtain ⟨⟨l', asg1, args1⟩, s1⟩ := R1
  simp only at he p1 n1
  have p2 := replaceExpr_push r (getIdentMode l') asg1 args1 sp .expr false s1
  have n2 := replaceExpr_nb r (getIdentMode l') asg1 args1 sp .expr false s1
  generalize replaceExpr r (getIdentMode l') asg1 args1 sp .expr false s1 = R2 at he p2 n2
  obtain ⟨⟨r', asg2, args2⟩, s2⟩ := R2
  simp only at he p2 n2
  split at he
  · simp only [run_pure, Option.some.injEq] at he
    refine ⟨.bin "+" l' r' sp, args2, asg2, he.symm, ?_, ?_⟩
    · apply Cert.plus
      rw [p2, p1]
      have a := Mir.pushOf l' none
      have b := Mir.pushOf r' none
      have := Mir.append a b
      simpa [pushOfX, kindOf] using this
    · rw [p2, p1]; simp only [List.nil_append, noBlkL_append, n1, n2, Bool.and_self]
  · simp [run_pure] at he

theorem toDdBinary_cert (cfg : Config) (l r : Node) (sp : Span) (s : St) :
    ∀ e', (toDdBinary cfg (.bin "+" l r sp) s).1 = some e' → CertRes cfg e' := fun e' he =>
  let ⟨first, args, asg, h⟩ := toDdBinary_certAt cfg l r sp s e' he
  ⟨first, args, asg, _, _, h⟩

theorem toDdAssign_certAt (cfg : Config) (op : String) (left r : Node) (sp : Span) (s : St) :
    ∀ e', (toDdAssign cfg (.assign op left r sp) s).1 = some e' →
      ∃ target first args asg, e' = .assign "=" target (ddParen first args asg cfg.plusName sp) sp ∧
        Cert cfg cfg.plusName first args ∧ noBlkL args = true := by
  intro e' he
  simp only [toDdAssign] at he
  by_cases hp : isPatternTarget left = true
  · simp [hp, run_pure] at he
  · simp only [hp, Bool.false_eq_true, if_false, run_bind] at he
    generalize splitMemberTarget left sp s = R1 at he
    obtain ⟨⟨target, operand⟩, s1⟩ := R1
    simp only at he
    have h2 := toDdBinary_certAt cfg operand (assignRhs r) sp s1
    generalize toDdBinary cfg (.bin "+" operand (assignRhs r) sp) s1 = R2 at he h2
    obtain ⟨res, s2⟩ := R2
    cases res with
    | none => simp [run_pure] at he
    | some e1 =>
      simp only [run_pure, Option.some.injEq] at he
      obtain ⟨first, args, asg, h1, hc⟩ := h2 e1 rfl
      exact ⟨target, first, args, asg, by rw [← he, h1], hc⟩

theorem toDdAssign_cert (cfg : Config) (op : String) (left r : Node) (sp : Span) (s : St) :
    ∀ e', (toDdAssign cfg (.assign op left r sp) s).1 = some e' →
      ∃ target e1, e' = .assign "=" target e1 sp ∧ CertRes cfg e1 := fun e' he =>
  let ⟨target, first, args, asg, h, hc⟩ := toDdAssign_certAt cfg op left r sp s e' he
  ⟨target, _, h, first, args, asg, _, _, rfl, hc⟩

theorem toDdTpl_certAt (cfg : Config) (es qs : List Node) (sp : Span) (s : St) :
    ∀ e', (toDdTpl cfg (.tpl es qs sp) s).1 = some e' →
      ∃ first args asg, e' = ddParen first args asg cfg.tplName sp ∧ Cert cfg cfg.tplName first args ∧
        noBlkL args = true := by
  intro e' he
  simp only [toDdTpl, run_bind, run_pure] at he
  have p1 := replaceTplExprs_push es [] [] s
  have na := replaceTplExprs_notArg es [] [] s
  have nb := replaceTplExprs_nb es [] [] s
  generalize replaceTplExprs es [] [] s = R1 at he p1 na nb
  obtain ⟨⟨es', asg, args⟩, s1⟩ := R1
  simp only [Option.some.injEq] at he p1 na nb
  refine ⟨.tpl es' qs sp, args, asg, he.symm, ?_, ?_⟩
  · apply Cert.tpl _ _ _ _ na
    rw [p1]
    simp only [List.nil_append]
    rw [map_singleton_flatten mirrorOf es']
    apply Mir.flatten
    intro x hx
    rw [mirrorOf_notArg (na x hx)]
    exact Mir.pushOf x none
  · rw [p1]; simpa using nb

theorem toDdTpl_cert (cfg : Config) (es qs : List Node) (sp : Span) (s : St) :
    ∀ e', (toDdTpl cfg (.tpl es qs sp) s).1 = some e' → CertRes cfg e' := fun e' he =>
  let ⟨first, args, asg, h⟩ := toDdTpl_certAt cfg es qs sp s e' he
  ⟨first, args, asg, _, _, h⟩

def CertRes2 (cfg : Config) (R : Option (Node × String) × St) : Prop :=
  ∀ e' tag, R.1 = some (e', tag) → CertRes cfg e'

theorem certRes2_none (cfg : Config) (s : St) : CertRes2 cfg ((none : Option (Node × String)), s) := by
  intro e' tag h; cases h

/-- the end the call forms share: callee and arguments are replaced and the call, adjusted by `g`, is handed to
    `ddParen`; what is owed is a certificate for any argument list that mirrors the replaced arguments -/
theorem certRes2_dd (cfg : Config) (dst method : String) (g : Node → Node) (callee : Node) (cargs : List Node) (csp : Span)
    (identCallee : Option Node) (asg args : List Node) (coa : Option String) (s : St) (hna : noBlkL args = true)
    (hc : ∀ cargs' P, Mir P (expArgs (coa.getD Generated.callMethodName == Generated.applyMethodName) (callArgs cargs')) →
      cargs'.map flagsOf = cargs.map flagsOf →
      Cert cfg dst (g (.call (match identCallee with
        | some i => Node.member i (.pname (coa.getD Generated.callMethodName) csp) csp
        | none => callee) cargs' csp)) (args ++ P)) :
    CertRes2 cfg (some (ddParen (g (replaceCallCalleeAndArgs callee cargs csp identCallee asg args coa s).1.1)
      (replaceCallCalleeAndArgs callee cargs csp identCallee asg args coa s).1.2.2
      (replaceCallCalleeAndArgs callee cargs csp identCallee asg args coa s).1.2.1 dst csp, method),
      (replaceCallCalleeAndArgs callee cargs csp identCallee asg args coa s).2) := by
  simp only [replaceCallCalleeAndArgs, run_bind, run_pure]
  generalize hE : ((coa.getD Generated.callMethodName) == Generated.applyMethodName) = expand at hc
  have h := replaceArgs_push .replace csp expand cargs asg args s
  have hf := replaceArgs_flags .replace csp expand cargs asg args s
  have hn := replaceArgs_nb .replace csp expand cargs asg args s
  generalize replaceArgs .replace csp expand cargs asg args s = R at h hf hn
  obtain ⟨⟨cargs', asg', args'⟩, s'⟩ := R
  dsimp only at h hf hn ⊢
  intro e' tag hres
  cases hres
  refine ⟨_, _, _, _, _, rfl, ?_, ?_⟩
  · rw [h]
    refine hc cargs' _ ?_ hf
    rw [pushes_callArgs]
    exact Mir.flatten _ _ _ fun x hx => Mir_argX expand x (callArgs_isArg _ x hx)
  · rw [h, noBlkL_append, hna, hn]; rfl

theorem replaceCallWithoutCallee_cert (cfg : Config) (name : Name) (isp : Span) (cargs : List Node) (csp : Span) (s : St) :
    CertRes2 cfg (replaceCallWithoutCallee cfg name isp (.ident name isp) cargs csp s) := by
  unfold replaceCallWithoutCallee
  cases name with
  | temp k => exact certRes2_none _ _
  | user method =>
    simp only
    cases hg : cfg.get method with
    | none => exact certRes2_none _ _
    | some csi =>
      simp only
      by_cases hal : csi.allowedWithoutCallee = true
      · simp only [hal, if_true, run_bind, run_pure]
        refine certRes2_dd cfg _ _ id _ _ _ none _ _ none s (by simp) fun cargs' P hm _ => ?_
        simp only [Option.getD_none, call_ne_apply, expArgs_false] at hm
        exact Cert.bare _ _ _ _ _ _ _ hm
      · simp only [hal, Bool.false_eq_true, if_false, run_pure]
        exact certRes2_none _ _

theorem rcwmTail_cert (cfg : Config) (dst method : String) (identReplacement memberExpr expr callee : Node) (cargs asg0 : List Node)
    (csp : Span) (coa : Option String) (s0 : St)
    (lme : memberExpr.isLit = false) (nir : noBlk identReplacement = true) (hcoa : ∀ x, coa = some x → isCallOrApply x = true) :
    CertRes2 cfg (rcwmTail dst method identReplacement memberExpr expr callee cargs asg0 csp coa s0) := by
  unfold rcwmTail
  simp only [run_bind, run_pure]
  rcases getIdentUsed_cases memberExpr asg0 [] csp .expr s0 with ⟨hl, _⟩ | ⟨_, n1, s1, h1, _⟩
  · rw [lme] at hl; cases hl
  · rw [h1]
    simp only
    refine certRes2_dd cfg _ _ (insertThis · identReplacement) _ _ _ (some (tempIdent n1)) _ _ coa s1
      (by simp [exprOrSpread, nir]) fun cargs' P hm _ => ?_
    simp only [insertThis, List.nil_append, List.cons_append, exprOrSpread]
    rcases propName_cases coa hcoa with hp | hp
    · rw [hp] at hm ⊢
      simp only [call_ne_apply, expArgs_false] at hm
      exact Cert.call _ _ _ _ _ _ _ _ _ (by rw [expected_call, callArgs_cons_arg]) (Mir.cons _ (Mir.cons _ hm))
    · rw [hp] at hm ⊢
      simp only [beq_self_eq_true] at hm
      exact Cert.call _ _ _ _ _ _ _ _ _ (expected_apply_this _ _ _ _ _ _ _ (callArgs_cons_arg _ _ _) rfl) (Mir.cons _ (Mir.cons _ hm))

theorem identOr_noBlk (expr : Node) (csp : Span) (s : St) :
    noBlk (identOr (getTemporalIdent expr [] csp .expr s).1.1 expr) = true := by
  rcases getTemporalIdent_cases expr [] csp .expr s with ⟨hl, h⟩ | ⟨hl, n, s', h, _⟩
  · rw [h]; exact isLit_noBlk hl
  · rw [h]; simp [identOr]

theorem replaceCallWithMember_cert (cfg : Config) (expr : Node) (method : String) (msp : Span)
    (callee : Node) (cargs : List Node) (csp : Span) (memberOpt : Option Node) (coa : Option String) (s : St)
    (hm : ∀ m, memberOpt = some m → m.isLit = false)
    (hcoa : ∀ x, coa = some x → isCallOrApply x = true) :
    CertRes2 cfg (replaceCallWithMember cfg expr method msp callee cargs csp memberOpt coa s) := by
  cases hg : cfg.get method with
  | none =>
    unfold replaceCallWithMember
    simp only [hg]
    exact certRes2_none _ _
  | some csi =>
    rw [replaceCallWithMember_unfold _ _ _ _ _ _ _ _ _ _ csi hg]
    simp only
    apply rcwmTail_cert cfg _ _ _ _ _ _ _ _ _ _ _ ?_ (identOr_noBlk expr csp s) hcoa
    cases memberOpt with
    | none => simp [memberOr, Node.isLit]
    | some m => simp [memberOr, hm m rfl]

theorem replaceCallSpreadWithMember_cert (cfg : Config) (method : String)
    (callee : Node) (this : Node) (rest : List Node) (csp : Span) (memberExpr : Node) (coa : String) (s : St)
    (hsp : argIsSpread this = true) (hcoa : isCallOrApply coa = true) :
    CertRes2 cfg (replaceCallSpreadWithMember cfg method callee (this :: rest) csp memberExpr coa s) := by
  unfold replaceCallSpreadWithMember
  cases hg : cfg.get method with
  | none => exact certRes2_none _ _
  | some csi =>
    simp only [run_bind]
    rcases getIdentUsed_cases memberExpr [] [] csp .expr s with ⟨hl, h1⟩ | ⟨_, n1, s1, h1, _⟩
    · rw [h1]; exact certRes2_none _ _
    · rw [h1]
      simp only [run_bind, run_pure]
      refine certRes2_dd cfg _ _ id _ _ _ (some (tempIdent n1)) _ _ (some coa) s1 (by simp [exprOrSpread])
        fun cargs' P hm hf => ?_
      simp only [id, List.nil_append, List.cons_append, exprOrSpread, Option.getD_some] at hm ⊢
      rcases isCallOrApply_cases hcoa with hp | hp
      · rw [hp] at hm ⊢
        simp only [call_ne_apply, expArgs_false] at hm
        exact Cert.call _ _ _ _ _ _ _ _ _ (expected_call _ _ _ _ _) (Mir.cons _ hm)
      · rw [hp] at hm ⊢
        simp only [beq_self_eq_true] at hm
        cases cargs' with
        | nil => simp at hf
        | cons this' rest' =>
          simp only [List.map_cons, List.cons.injEq] at hf
          have hs' : isSpreadArg this' = true := by
            have h2 := congrArg Prod.snd hf.1
            simp only [flagsOf] at h2
            rw [h2, ← argIsSpread_eq]; exact hsp
          have ha' : callArgs (this' :: rest') = this' :: callArgs rest' := by
            cases this' with
            | arg s0 e0 => exact callArgs_cons_arg _ _ _
            | _ => simp [isSpreadArg] at hs'
          exact Cert.call _ _ _ _ _ _ _ _ _ (expected_apply_spread _ _ _ _ _ _ _ ha' hs') (Mir.cons _ hm)

theorem replacePrototypeCallOrApply_cert (cfg : Config) (cargs : List Node) (csp : Span) (callee member : Node)
    (coa : String) (s : St) :
    CertRes2 cfg (replacePrototypeCallOrApply cfg cargs csp callee member coa s) := by
  by_cases h1 : isCallOrApply coa = true
  · refine replacePrototype_cases (P := fun m => CertRes2 cfg (m s)) cfg cargs csp callee member coa
      (certRes2_none _ _) ?_ ?_
    · intro method msp this rest _ hc hs
      subst hc
      exact replaceCallSpreadWithMember_cert cfg method callee this rest csp member coa s hs h1
    · intro method msp this rest hpm _ _
      exact replaceCallWithMember_cert cfg (argExpr this) method msp _ rest csp (some member) (some coa) s
        (fun m hm => by obtain ⟨o, sp, rfl⟩ := prototypeMethodIdent_some hpm; cases hm; rfl)
        (fun x hx => Option.some.inj hx ▸ h1)
  · unfold replacePrototypeCallOrApply
    rw [if_pos (by rw [Bool.not_eq_true] at h1; rw [h1]; rfl)]
    exact certRes2_none _ _

theorem toDdCall_cert (cfg : Config) (callee : Node) (cargs : List Node) (csp : Span) (s : St) :
    CertRes2 cfg (toDdCall cfg (.call callee cargs csp) s) := by
  refine toDdCall_cases (P := fun m => CertRes2 cfg (m s)) cfg callee cargs csp (certRes2_none _ _) ?_ ?_ ?_
  · rintro obj m msp cs rfl
    exact replaceCallWithMember_cert cfg obj m msp _ cargs csp none none s nofun nofun
  · rintro o p sp m msp cs rfl _
    exact replacePrototypeCallOrApply_cert cfg cargs csp _ _ m s
  · rintro name isp rfl
    exact replaceCallWithoutCallee_cert cfg name isp cargs csp s

end IastModel
