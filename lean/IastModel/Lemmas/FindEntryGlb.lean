import IastModel.Js.FindEntry
namespace IastModel.FindEntry
open IastModel.Codec

theorem posLt_iff (p q : Pos) : posLt p q = true ↔ (p.1 < q.1 ∨ (p.1 = q.1 ∧ p.2 < q.2)) := by
  simp [posLt]

theorem posLe_eq_not_posLt (l1 c1 l2 c2 : Nat) : posLe l1 c1 l2 c2 = !posLt (l2, c2) (l1, c1) := by
  rw [Bool.eq_iff_iff, Bool.not_eq_true', ← Bool.not_eq_true, posLt_iff]
  simp only [posLe, Bool.or_eq_true, Bool.and_eq_true, decide_eq_true_eq, beq_iff_eq]
  omega

theorem posLt_trans_le {a b c : Pos} (h1 : posLt a b = true) (h2 : posLt c b = false) : posLt a c = true := by
  rw [posLt_iff] at h1 ⊢
  have h2' : ¬ (c.1 < b.1 ∨ (c.1 = b.1 ∧ c.2 < b.2)) := by rw [← posLt_iff]; simp [h2]
  omega

theorem le_trans' {a b c : Pos} (h1 : posLt a b = false) (h2 : posLt b c = false) : posLt a c = false := by
  have h1' : ¬ (a.1 < b.1 ∨ (a.1 = b.1 ∧ a.2 < b.2)) := by rw [← posLt_iff]; simp [h1]
  have h2' : ¬ (b.1 < c.1 ∨ (b.1 = c.1 ∧ b.2 < c.2)) := by rw [← posLt_iff]; simp [h2]
  cases h : posLt a c with
  | false => rfl
  | true => rw [posLt_iff] at h; omega

/-- sorted by generated position (what `ArrayPrototypeSort(this._mappings, compareSourceMapEntry)` leaves) -/
def Sorted (ms : List Pos) : Prop := ∀ i j, i ≤ j → j < ms.length → posLt (ms.getD j (0, 0)) (ms.getD i (0, 0)) = false

structure Inv (ms : List Pos) (pos : Pos) (first count : Nat) : Prop where
  pos_count : 1 ≤ count
  bound : first + count ≤ ms.length
  low : first = 0 ∨ posLt pos (ms.getD first (0, 0)) = false
  high : first + count = ms.length ∨ posLt pos (ms.getD (first + count) (0, 0)) = true

theorem loop_spec (ms : List Pos) (pos : Pos) : ∀ (fuel first count : Nat), count ≤ fuel → Inv ms pos first count →
    Inv ms pos (loop ms pos fuel first count) 1 := by
  intro fuel
  induction fuel with
  | zero => intro first count h inv; have := inv.pos_count; omega
  | succ fuel ih =>
    intro first count hf inv
    simp only [loop]
    by_cases hc : count > 1
    · simp only [hc, if_true]
      have hstep : 1 ≤ count / 2 := by omega
      have hstep2 : count / 2 < count := by omega
      by_cases hlt : posLt pos (ms.getD (first + count / 2) (0, 0)) = true
      · simp only [hlt, if_true]
        apply ih first (count / 2) (by omega)
        exact ⟨hstep, by have := inv.bound; omega, inv.low, Or.inr hlt⟩
      · simp only [hlt, Bool.false_eq_true, if_false]
        apply ih (first + count / 2) (count - count / 2) (by omega)
        refine ⟨by omega, by have := inv.bound; omega, Or.inr (by simpa using hlt), ?_⟩
        have : first + count / 2 + (count - count / 2) = first + count := by omega
        rw [this]; exact inv.high
    · simp only [hc, if_false]
      have : count = 1 := by have := inv.pos_count; omega
      subst this; exact inv

/-- **`findEntry` is the greatest-lower-bound lookup.**  On mappings sorted by generated position it
    returns the last entry at or before the requested position, and `{}` exactly when there is none. -/
theorem findEntry_glb (ms : List Pos) (pos : Pos) (hs : Sorted ms) :
    match findEntryIdx ms pos with
    | some i => i < ms.length ∧ posLt pos (ms.getD i (0, 0)) = false ∧
        ∀ j, i < j → j < ms.length → posLt pos (ms.getD j (0, 0)) = true
    | none => ∀ j, j < ms.length → posLt pos (ms.getD j (0, 0)) = true := by
  unfold findEntryIdx
  by_cases hn : ms.length = 0
  · have : ms = [] := List.eq_nil_of_length_eq_zero hn
    subst this
    simp [loop]
  · have inv0 : Inv ms pos 0 ms.length := ⟨by omega, by omega, Or.inl rfl, Or.inl (by omega)⟩
    have inv := loop_spec ms pos ms.length 0 ms.length (Nat.le_refl _) inv0
    generalize loop ms pos ms.length 0 ms.length = first at inv
    have hlt : first < ms.length := by have := inv.bound; omega
    have hget : ms[first]? = some (ms.getD first (0, 0)) := by
      rw [List.getD_eq_getElem?_getD, List.getElem?_eq_getElem hlt]; rfl
    simp only [hget]
    -- everything after `first` is beyond the position
    have hafter : ∀ j, first < j → j < ms.length → posLt pos (ms.getD j (0, 0)) = true := by
      intro j hj hjl
      rcases inv.high with h | h
      · omega
      · exact posLt_trans_le h (hs (first + 1) j (by omega) hjl)
    by_cases hz : (first == 0 && posLt pos (ms.getD first (0, 0))) = true
    · simp only [hz, if_true]
      simp only [Bool.and_eq_true, beq_iff_eq] at hz
      intro j hjl
      by_cases hj : j = first
      · rw [hj]; exact hz.2
      · exact hafter j (by omega) hjl
    · simp only [hz, Bool.false_eq_true, if_false]
      refine ⟨hlt, ?_, hafter⟩
      rcases inv.low with h | h
      · simp only [h, beq_self_eq_true, Bool.true_and, Bool.not_eq_true] at hz
        rw [h]; exact hz
      · exact h

/-- the last element of a list that satisfies `p` on a prefix of length `i + 1` and nowhere after -/
theorem filter_getLast_of_prefix {α : Type} (p : α → Bool) (l : List α) (i : Nat) (hi : i < l.length)
    (h1 : ∀ j (hj : j < l.length), j ≤ i → p l[j] = true) (h2 : ∀ j (hj : j < l.length), i < j → p l[j] = false) :
    (l.filter p).getLast? = some l[i] := by
  induction l generalizing i with
  | nil => simp at hi
  | cons x xs ih =>
    have hx : p x = true := h1 0 (by simp) (by omega)
    cases i with
    | zero =>
      have hxs : xs.filter p = [] := by
        rw [List.filter_eq_nil_iff]
        intro a ha
        obtain ⟨k, hk, rfl⟩ := List.getElem_of_mem ha
        have := h2 (k + 1) (by simp; omega) (by omega)
        simpa using this
      simp [hx, hxs]
    | succ i =>
      have hi' : i < xs.length := by simp at hi; omega
      have := ih i hi' (fun j hj hji => by have := h1 (j + 1) (by simp; omega) (by omega); simpa using this)
        (fun j hj hji => by have := h2 (j + 1) (by simp; omega) (by omega); simpa using this)
      simp only [List.filter_cons, hx, if_true, List.getElem_cons_succ]
      rw [List.getLast?_cons, this]; rfl

theorem filter_nil_of_all_false {α : Type} (p : α → Bool) (l : List α) (h : ∀ j (hj : j < l.length), p l[j] = false) :
    l.filter p = [] := by
  rw [List.filter_eq_nil_iff]
  intro a ha
  obtain ⟨k, hk, rfl⟩ := List.getElem_of_mem ha
  simp [h k hk]

theorem getD_eq_getElem (ms : List Pos) (j : Nat) (hj : j < ms.length) : ms.getD j (0, 0) = ms[j] := by
  rw [List.getD_eq_getElem?_getD, List.getElem?_eq_getElem hj]; rfl

/-- **`findEntry` = the specification `lookup`.**  For mappings sorted by generated position, the
    entry the binary search returns is exactly the last mapping at or before the position — the
    function `Codec.lookup` that the map oracles (C09, C10) and the C11 correspondence use as the meaning
    of "the position resolves to". -/
theorem findEntry_eq_lookup (toks : List Token) (line col : Nat)
    (hs : Sorted (toks.map fun t => (t.genLine, t.genCol))) :
    lookup toks line col =
      (findEntryIdx (toks.map fun t => (t.genLine, t.genCol)) (line, col)).bind (fun i => toks[i]?) := by
  have hp : ∀ t : Token, posLe t.genLine t.genCol line col = !posLt (line, col) (t.genLine, t.genCol) :=
    fun t => posLe_eq_not_posLt ..
  have hlen : (toks.map fun t => (t.genLine, t.genCol)).length = toks.length := by simp
  have hg := findEntry_glb (toks.map fun t => (t.genLine, t.genCol)) (line, col) hs
  unfold lookup
  cases hfe : findEntryIdx (toks.map fun t => (t.genLine, t.genCol)) (line, col) with
  | none =>
    rw [hfe] at hg
    simp only [Option.bind_none]
    rw [filter_nil_of_all_false]
    · rfl
    · intro j hj
      have := hg j (by rw [hlen]; exact hj)
      rw [getD_eq_getElem _ j (by rw [hlen]; exact hj)] at this
      simp only [List.getElem_map] at this
      rw [hp, this]; rfl
  | some i =>
    rw [hfe] at hg
    obtain ⟨hi, hle, hafter⟩ := hg
    have hi' : i < toks.length := by rw [hlen] at hi; exact hi
    simp only [Option.bind_some, List.getElem?_eq_getElem hi']
    apply filter_getLast_of_prefix _ toks i hi'
    · intro j hj hji
      rw [hp]
      -- ms[j] ≤ ms[i] ≤ pos
      have h1 := hs j i hji hi
      rw [getD_eq_getElem _ i hi, getD_eq_getElem _ j (by rw [hlen]; exact hj)] at h1
      rw [getD_eq_getElem _ i hi] at hle
      simp only [List.getElem_map] at h1 hle
      have := le_trans' hle h1
      simp [this]
    · intro j hj hij
      rw [hp]
      have := hafter j hij (by rw [hlen]; exact hj)
      rw [getD_eq_getElem _ j (by rw [hlen]; exact hj)] at this
      simp only [List.getElem_map] at this
      simp [this]

end IastModel.FindEntry
