import IastModel.Lemmas.Master
import IastModel.Lemmas.Temps
/-
  `Node.count p` for an arbitrary predicate `p` (its equations per constructor are in `CountBasic`): the
  class of predicates (`Scaf`) that cannot see the nodes the rewriter builds around the operands it moves.  Every counter of
  the development (`eff`, `cn`, `cq`, `cl`, `cb`) is `Node.count` at such a predicate, so the conservation
  laws of the operand handler, the `+=` target split, the optional-chain lowering and the transforms are
  proved once, below and in `CountOp`/`CountTr`/`CountAssign`/`CountOc`.
-/
namespace IastModel
open Node

/-- kept, and there only if it was there before -/
def LZ (a b : Nat) : Prop := a ≤ b ∧ (a = 0 → b = 0)

theorem LZ.refl (a : Nat) : LZ a a := ⟨Nat.le_refl a, id⟩
theorem LZ.trans {a b c : Nat} (h1 : LZ a b) (h2 : LZ b c) : LZ a c := ⟨Nat.le_trans h1.1 h2.1, fun h => h2.2 (h1.2 h)⟩
theorem LZ.add {a b c d : Nat} (h1 : LZ a b) (h2 : LZ c d) : LZ (a + c) (b + d) :=
  ⟨by have := h1.1; have := h2.1; omega, by intro h; have := h1.2 (by omega); have := h2.2 (by omega); omega⟩
theorem LZ.of_bound {a b k : Nat} (h1 : a ≤ b) (h2 : b ≤ k * a) : LZ a b :=
  ⟨h1, by intro h; subst h; simpa using h2⟩
theorem LZ.of_eq {a b : Nat} (h : a = b) : LZ a b := h ▸ LZ.refl a
theorem LZ.of_copies {w out κ k : Nat} (h : out = w + κ) (hk : κ ≤ k * w) : LZ w out :=
  ⟨by omega, by intro h0; subst h0; simp at hk; omega⟩

theorem hookName?_none_of_ns0 (c : Node) (as : List Node) (sp : Span) (h : ns c = 0) : hookName? (.call c as sp) = none := by
  cases hh : hookName? (.call c as sp) with
  | none => rfl
  | some nm =>
    obtain ⟨x, isp, psp, msp, rfl, hx⟩ := hookName?_call hh
    rw [ns_member, ns_user, hx, if_pos rfl] at h
    omega

theorem hookName?_of_ns0 {n : Node} (h0 : ns n = 0) : hookName? n = none := by
  cases n <;> first | rfl | exact hookName?_none_of_ns0 _ _ _ (by simp only [ns_call] at h0; omega)

theorem countL_zero_of (p : Node → Bool) : ∀ {l : List Node}, (∀ k ∈ l, count p k = 0) → countL p l = 0
  | [], _ => rfl
  | x :: xs, h => by
    rw [countL_cons, h x (List.mem_cons_self ..), countL_zero_of p fun k hk => h k (List.mem_cons_of_mem _ hk)]

theorem count_of_ns0 {p : Node → Bool} (hp : ∀ n, hookName? n = none → p n = false) :
    ∀ n : Node, ns n = 0 → count p n = 0 := by
  apply Node.ind
  intro n ih h0
  rw [count_eq', hp n (hookName?_of_ns0 h0),
    countL_zero_of p fun k hk => ih k hk (nsL_eq_zero _ (nsL_kids_of_ns0 h0) k hk)]
  rfl

theorem hookName?_args (c : Node) (as as' : List Node) (sp sp' : Span) :
    hookName? (.call c as' sp') = hookName? (.call c as sp) := by
  cases c <;> try rfl
  case member o q m =>
    cases o <;> try rfl
    case ident nm i => cases nm <;> cases q <;> rfl

/-- The nodes the rewriter puts around, or in place of, the operands it moves: temporaries and their
    `t = e` assignments, the `(a, b, hook(..))` sequence and its parentheses, argument and spread
    wrappers, the member / binary / conditional / optional-chain skeleton of the expression being
    rewritten (rebuilt with new children), computed keys, `void 0`, `null`, `undefined`, and the
    `return` of a wrapped arrow body. -/
def glue : Node → Bool
  | .ident (.temp _) _ => true
  | .ident (.user x) _ => x == "undefined"
  | .lit k _ _ _ => k != "StringLiteral"
  | .assign _ l _ _ => isTempIdent l
  | .unary op _ _ => op == "void"
  | .other k _ _ _ => k == "Computed" || k == "SuperPropExpression" || k == "ReturnStatement"
  | .pname .. | .bin .. | .member .. | .arg .. | .paren .. | .seq .. | .array .. | .cond .. | .optChain .. => true
  | _ => false

/-- `p` is false on scaffolding, and on the kinds of node that the transforms rebuild with other children or another
    head (template, user call, optional call turned into a call, assignment to a target) it depends on the kind only. -/
structure Scaf (p : Node → Bool) : Prop where
  glue : ∀ n, glue n = true → p n = false
  tpl : ∀ es qs es' qs' sp, p (.tpl es qs sp) = p (.tpl es' qs' sp)
  call : ∀ {c as sp c' as' sp'}, hookName? (.call c as sp) = none → hookName? (.call c' as' sp') = none →
    p (.call c as sp) = p (.call c' as' sp')
  optCall : ∀ (c as sp) {c' as' sp'}, hookName? (.call c' as' sp') = none → p (.optCall c as sp) = p (.call c' as' sp')
  assign : ∀ {op l r sp op' l' r' sp'}, isTempIdent l = false → isTempIdent l' = false →
    p (.assign op l r sp) = p (.assign op' l' r' sp')

/-- `p` is also false on what the operand handler copies into a hook's argument list: literals and
    identifiers (sums of literals are then covered by `Scaf.glue`). -/
def CopyBlind (p : Node → Bool) : Prop := ∀ n, leaf n = true → p n = false

namespace Scaf
variable {p : Node → Bool} (hp : Scaf p)
include hp

theorem c_temp (n : Nat) (sp : Span) : count p (.ident (.temp n) sp) = 0 := by
  rw [count_ident, hp.glue _ rfl]; rfl
theorem c_tempIdent (n : Nat) : count p (tempIdent n) = 0 := hp.c_temp n _
theorem c_pname (n : String) (sp : Span) : count p (.pname n sp) = 0 := by
  rw [count_pname, hp.glue _ rfl]; rfl
theorem c_bin (op : String) (l r : Node) (sp : Span) : count p (.bin op l r sp) = count p l + count p r := by
  rw [count_bin, hp.glue _ rfl]; simp
theorem c_member (o q : Node) (sp : Span) : count p (.member o q sp) = count p o + count p q := by
  rw [count_member, hp.glue _ rfl]; simp
theorem c_arg (s : Option Span) (e : Node) : count p (.arg s e) = count p e := by
  rw [count_arg, hp.glue _ rfl]; simp
theorem c_paren (e : Node) (sp : Span) : count p (.paren e sp) = count p e := by
  rw [count_paren, hp.glue _ rfl]; simp
theorem c_optChain (o : Bool) (b : Node) (sp : Span) : count p (.optChain o b sp) = count p b := by
  rw [count_optChain, hp.glue _ rfl]; simp
theorem c_seq (es : List Node) (sp : Span) : count p (.seq es sp) = countL p es := by
  rw [count_seq, hp.glue _ rfl]; simp
theorem c_array (es : List Node) (sp : Span) : count p (.array es sp) = countL p es := by
  rw [count_array, hp.glue _ rfl]; simp
theorem c_cond (t c a : Node) (sp : Span) : count p (.cond t c a sp) = count p t + count p c + count p a := by
  rw [count_cond, hp.glue _ rfl]; simp
theorem c_tempAssign (op : String) (n : Nat) (tsp : Span) (r : Node) (sp : Span) :
    count p (.assign op (.ident (.temp n) tsp) r sp) = count p r := by
  rw [count_assign, hp.glue _ rfl, hp.c_temp]; simp
theorem c_computed (csp : Span) (ns : List String) (vs : List Node) :
    count p (.other "Computed" csp ns vs) = countL p vs := by
  rw [count_other, hp.glue _ rfl]; simp
theorem c_superProp (csp : Span) (ns : List String) (vs : List Node) :
    count p (.other "SuperPropExpression" csp ns vs) = countL p vs := by
  rw [count_other, hp.glue _ rfl]; simp
theorem c_voidZero : count p voidZero = 0 := by
  rw [voidZero, count_unary, hp.glue _ rfl, count_lit, hp.glue _ rfl]; rfl
theorem c_nullLit : count p nullLit = 0 := by
  rw [nullLit, count_lit, hp.glue _ rfl]; rfl
theorem c_undefined (sp : Span) : count p (.ident (.user "undefined") sp) = 0 := by
  rw [count_ident, hp.glue _ rfl]; rfl

theorem c_assignRight (e : Node) (k : IdentKind) : count p (assignRight e k) = count p e := by
  cases k
  · rfl
  · simp only [assignRight, hp.c_array, countL_cons, countL_nil, hp.c_arg, Nat.add_zero]
theorem c_exprOrSpread (e : Node) (k : IdentKind) : count p (exprOrSpread e k) = count p e := by
  cases k <;> exact hp.c_arg _ _
theorem c_seqOperand (e : Node) : count p (seqOperand e) = count p e := by
  unfold seqOperand; split
  · exact hp.c_paren _ _
  · rfl
theorem c_tplOperand (e : Node) : count p (tplOperand e) = count p e := hp.c_seqOperand e
theorem c_assignRhs (e : Node) : count p (assignRhs e) = count p e := by
  unfold assignRhs; split
  · exact hp.c_paren _ _
  · rfl

theorem c_ddCall (e : Node) (args : List Node) (m : String) (sp : Span) :
    count p (ddCall e args m sp) =
      (if p (ddCall e args m sp) then 1 else 0) + count p (.ident (.user Generated.ddGlobalNamespace) sp) +
        (count p e + countL p args) := by
  show count p (.call (ddCallee m sp) (.arg none e :: args) sp) = _
  rw [count_call, ddCallee, hp.c_member, hp.c_pname, countL_cons, hp.c_arg]
  show _ = (if p (.call (ddCallee m sp) (.arg none e :: args) sp) = true then 1 else 0) + _ + _
  rw [ddCallee]; omega

theorem c_ddParen (e : Node) (args asg : List Node) (m : String) (sp : Span) :
    count p (ddParen e args asg m sp) = count p (ddCall e args m sp) + countL p asg := by
  unfold ddParen
  cases asg with
  | nil => simp
  | cons a as =>
    simp only [List.isEmpty_cons, Bool.false_eq_true, if_false, hp.c_paren, hp.c_seq, countL_append, countL_cons,
      countL_nil]
    omega

theorem c_toDdArrow (ha : ∀ ps b b' a sp, p (.arrow ps b a sp) = p (.arrow ps b' a sp)) (n : Node) :
    ∃ k, count p ((toDdArrow n).getD n) = count p n + k ∧ ((∀ ss sp, p (.block ss sp) = false) → k = 0) := by
  unfold toDdArrow
  split
  · rename_i params body attrs sp
    split
    · exact ⟨0, rfl, fun _ => rfl⟩
    · refine ⟨if p (.block [.other "ReturnStatement" Span.dummy ["argument"] [body]] Span.dummy) then 1 else 0, ?_,
        fun hb => by rw [hb]; rfl⟩
      simp only [Option.getD_some, count_arrow, count_block, countL_cons, countL_nil, returnStmt, count_other,
        hp.glue (.other "ReturnStatement" Span.dummy ["argument"] [body]) rfl, ha params _ body, Bool.false_eq_true,
        if_false]
      omega
  · exact ⟨0, rfl, fun _ => rfl⟩

theorem c_literalSum_of (hl : ∀ k v r sp, p (.lit k v r sp) = false) : ∀ e : Node, isLiteralSum e = true → count p e = 0 := by
  intro e
  induction e using Node.rec (motive_2 := fun _ => True) with
  | lit k v r sp => intro _; rw [count_lit, hl]; rfl
  | bin op l r sp ihl ihr =>
    intro h
    simp only [isLiteralSum, Bool.and_eq_true] at h
    rw [hp.c_bin, ihl h.1.2, ihr h.2]
  | nil => trivial
  | cons => trivial
  | _ => intro h; simp [isLiteralSum] at h

end Scaf

namespace CopyBlind
variable {p : Node → Bool} (hc : CopyBlind p)
include hc

theorem lit (k v r : String) (sp : Span) : p (.lit k v r sp) = false := hc _ rfl
theorem ident (n : Name) (sp : Span) : p (.ident n sp) = false := hc _ rfl
theorem of_leaf {e : Node} (h : leaf e = true) : count p e = 0 := by
  cases e <;> simp [leaf, Node.isLit, Node.isIdent] at h
  · rw [count_lit, hc.lit]; rfl
  · rw [count_ident, hc.ident]; rfl
theorem of_isLit {e : Node} (h : e.isLit = true) : count p e = 0 := hc.of_leaf (by simp [leaf, h])

end CopyBlind

end IastModel
