import IastModel.Lemmas.BlockSpec
namespace IastModel
open Node

def isES : Node → Bool
  | .exprStmt .. => true
  | _ => false

theorem withKids_isES (n : Node) (ks : List Node) : isES (n.withKids ks) = isES n := by
  cases n <;> rfl

theorem isES_inv {x : Node} (h : isES x = true) : ∃ e sp, x = .exprStmt e sp := by
  cases x with
  | exprStmt e sp => exact ⟨e, sp, rfl⟩
  | _ => cases h

theorem visit_es (cfg : Config) : ∀ (f : Nat) (root : Bool) (n : Node) (s : St),
    isES n = false → isES (visit cfg f root n s).1 = false :=
  visit_keeps_false withKids_isES (fun r h => by cases r <;> first | rfl | cases h) cfg

end IastModel
