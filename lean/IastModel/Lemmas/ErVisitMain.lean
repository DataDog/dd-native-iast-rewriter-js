import IastModel.Lemmas.ErOc
namespace IastModel
open Node

/-- an expression-bodied arrow: the injected `{ return e }` is taken away again — also after the block
    visitor has worked on that injected block -/
theorem arrow_VC (ps : List Node) (b : Node) (at' : String) (sp : Span) (hs : srcOk (.arrow ps b at' sp) = true)
    (lo hi : Nat) : EVC lo hi (.arrow ps (.block [returnStmt b] Span.dummy) at' sp) (.arrow ps b at' sp) := by
  have hsk := srcOk_kids hs
  have hps : ∀ k ∈ ps, srcOk k = true := fun k hk => hsk k (by simp [kids, hk])
  have hb : srcOk b = true := hsk b (by simp [kids])
  refine ⟨?_, Or.inl rfl, by simp [Deep], rfl, by simp [Node.isIdent]⟩
  intro m hbr σ
  obtain ⟨ps'', body'', rfl, hps'', hbody⟩ := hbr.arrow_inv
  obtain ⟨Xs, Δ1, e1, s1, w1⟩ := eraseL_KL (EVC.srcL lo hi ps hps) ps'' hps'' σ
  have hret : ∀ σ', erase σ' (returnStmt b) = (returnStmt b, σ') := fun σ' => erase_src _ (srcOk_returnStmt hb) σ'
  have hli : injectedLetAt Span.dummy [returnStmt b] = none :=
    injectedLetAt_src _ _ (by intro k hk; simp only [List.mem_singleton] at hk; subst hk; exact srcOk_returnStmt hb)
  -- the erased body is `{ return e' }` without positions, with `e'` the source body up to positions
  have hbd : ∃ e', erase (Δ1 ++ σ) body'' = (.block [.other "ReturnStatement" Span.dummy ["argument"] [e']] Span.dummy, Δ1 ++ σ) ∧
      strip e' = strip b := by
    rcases hbody.block_inv with rfl | ⟨ss', rfl, hg⟩
    · refine ⟨b, ?_, rfl⟩
      simp only [erase, eraseL, hret, hli, dropAt]
      rfl
    · obtain ⟨es, ee, hsim⟩ := hg (Δ1 ++ σ)
      have hst := hsim.1
      have hsp := hsim.2
      cases es with
      | nil => simp [stripL] at hst
      | cons e0 rest =>
        cases rest with
        | cons _ _ => simp [stripL] at hst
        | nil =>
          simp only [stripL, List.cons.injEq, and_true] at hst
          simp only [List.map_cons, List.map_nil, List.cons.injEq, and_true] at hsp
          simp only [returnStmt, strip] at hst
          obtain ⟨sp2, vs2, rfl, hvs⟩ := strip_eq_other hst
          simp only [returnStmt, Node.span] at hsp
          subst hsp
          cases vs2 with
          | nil => simp [stripL] at hvs
          | cons v0 vrest =>
            cases vrest with
            | cons _ _ => simp [stripL] at hvs
            | nil =>
              simp only [stripL, List.cons.injEq, and_true] at hvs
              exact ⟨v0, ee, hvs⟩
  obtain ⟨e', ebd, he'⟩ := hbd
  refine ⟨.arrow Xs e' at' sp, Δ1, ?_, ⟨by simp only [strip, Forall2_Sim_strip s1, he'], Or.inl rfl, by simp [noSp, unSpread]⟩, w1⟩
  rw [erase_arrow, e1]
  simp only
  rw [ebd]
  simp [arrowOut, dummy_isDummy]

theorem KL_one {lo hi : Nat} {a' a : Node} (h : KL lo hi [a'] [a]) : EVC lo hi a' a := by
  simp only [KL, Forall2] at h; exact h.1

theorem KL_cons {lo hi : Nat} {a' a : Node} {as' as : List Node} (h : KL lo hi (a' :: as') (a :: as)) :
    EVC lo hi a' a ∧ KL lo hi as' as := by
  simp only [KL, Forall2] at h; exact h

theorem KL_lists_two {lo hi : Nat} {ks' : List Node} {a b : Node} (h : KL lo hi ks' [a, b]) :
    ∃ a' b', ks' = [a', b'] := by
  have := h.length
  match ks', this with
  | [a', b'], _ => exact ⟨a', b', rfl⟩

theorem KL_lists_cons {lo hi : Nat} {ks' : List Node} {a : Node} {as : List Node} (h : KL lo hi ks' (a :: as)) :
    ∃ a' as', ks' = a' :: as' := by
  have := h.length
  match ks', this with
  | a' :: as', _ => exact ⟨a', as', rfl⟩


/-- the template's children: the substitutions are visited, the quasis come back as they are -/
theorem tpl_kids (cfg : Config) (f : Nat) (r : Bool) (es qs : List Node) (s : St)
    (hq : qs.all inertT = true)
    (hes : KRes r s (mapM' (visit cfg f r) es s).2 (mapM' (visit cfg f r) es s).1 es)
    (hqs : ∀ s1, KRes r s1 (mapM' (visit cfg f r) qs s1).2 (mapM' (visit cfg f r) qs s1).1 qs) :
    (mapM' (visit cfg f r) (es ++ qs) s).1 = (mapM' (visit cfg f r) es s).1 ++ qs ∧
    KRes r s (mapM' (visit cfg f r) (es ++ qs) s).2 (mapM' (visit cfg f r) es s).1 es := by
  rw [mapM'_append]
  simp only
  have hid : (mapM' (visit cfg f r) qs (mapM' (visit cfg f r) es s).2).1 = qs :=
    mapM'_id _ _ _ (fun k hk s' => visit_inert cfg f r k s' (List.all_eq_true.mp hq k hk))
  refine ⟨by rw [hid], ?_⟩
  have h2 := hqs (mapM' (visit cfg f r) es s).2
  cases r
  · simp only [KRes] at hes h2 ⊢
    exact ⟨by omega, KL.mono (Nat.le_refl _) h2.1 hes.2⟩
  · exact hes

/-- **the operation visitor's result erases to the node it was given** (no optional chain in the tree) -/
theorem visit_VRes (cfg : Config) : ∀ (f : Nat) (root : Bool) (n : Node) (s : St), srcOk n = true → noOpt cfg n = true →
    VRes root s (visit cfg f root n s).2 (visit cfg f root n s).1 n := by
  intro f
  induction f with
  | zero =>
    intro root n s hs _
    rw [visit_zero]
    exact VRes_src root _ _ n hs rfl
  | succ f ih =>
    intro root n s hs hno
    have hsk := srcOk_kids hs
    have hnk := noOpt_kids hno
    have hK : ∀ (r : Bool) (ks : List Node), (∀ k ∈ ks, srcOk k = true) → (∀ k ∈ ks, noOpt cfg k = true) → ∀ s,
        KRes r s (mapM' (visit cfg f r) ks s).2 (mapM' (visit cfg f r) ks s).1 ks :=
      fun r ks h1 h2 s => mapM'_KRes _ r ks (fun k hk s => ih r k s (h1 k hk) (h2 k hk)) s
    have gen : ∀ r, genK n = true →
        VRes r s (mapKidsM mapM' (visit cfg f r) n s).2 (mapKidsM mapM' (visit cfg f r) n s).1 n := by
      intro r hg
      rw [mapKidsM_run]
      exact VRes_of_KRes r s _ n _ (fun lo hi => genAll_VC n hs hg lo hi _) (hK r n.kids hsk hnk s)
    cases n with
    | ident nm sp => rw [visit_ident]; exact VRes_src root _ _ _ hs rfl
    | block ss sp => rw [visit_block]; exact VRes_src root _ _ _ hs rfl
    | optChain o b sp =>
      -- not lowered under this configuration: the chain is handed back and its children are visited
      rw [visit_optChain]
      simp only [run_bind]
      obtain ⟨hc1, hc2⟩ := toDdCond_id cfg f (.optChain o b sp) s hno
      generalize toDdCond cfg f (.optChain o b sp) s = C at hc1 hc2 ⊢
      obtain ⟨⟨e', res⟩, s1⟩ := C
      simp only [Prod.mk.injEq] at hc1
      obtain ⟨rfl, rfl⟩ := hc1
      simp only [Option.getD_none]
      rw [mapKidsM_run]
      have hk := hK false _ hsk hnk s1
      have hcnt : s1.counter = s.counter := hc2.1
      have hv : EVC s.counter (mapM' (visit cfg f false) (Node.optChain o b sp).kids s1).2.counter
          ((Node.optChain o b sp).withKids (mapM' (visit cfg f false) (Node.optChain o b sp).kids s1).1) (.optChain o b sp) := by
        have := genAll_VC (.optChain o b sp) hs rfl _ _ _ hk.2
        rwa [hcnt] at this
      exact VRes_of_VC root s _ _ _ (by have := hk.1; dsimp only at this ⊢; omega) hv
    | arrow ps b at' sp =>
      rw [visit_arrow]
      simp only [run_pure, toDdArrow]
      split
      · exact VRes_src root _ _ _ hs rfl
      · simp only [Option.getD_some]
        cases root
        · exact ⟨Nat.le_refl _, arrow_VC ps b at' sp hs _ _⟩
        · exact ⟨0, arrow_VC ps b at' sp hs _ _⟩
    | unary op a sp =>
      rw [visit_unary]
      by_cases hd : isDelete op = true
      · rw [if_pos hd]; exact VRes_src root _ _ _ hs rfl
      · rw [if_neg hd]; exact gen root rfl
    | bin op l r sp =>
      by_cases hp : cfg.plusEnabled = true
      case neg => rw [visit_bin, if_neg hp]; exact gen root rfl
      obtain ⟨l', r', s1, hk1⟩ := mapM'_pair (visit cfg f false) l r s
      rw [visit_bin_run cfg f root hp op l r sp s hk1]
      have hk := hK false [l, r] hsk hnk s
      rw [hk1] at hk
      obtain ⟨c01, hkl⟩ := hk
      dsimp only at c01 hkl
      by_cases hop : (op == "+") = true
      · rw [if_pos hop]
        have h := bin_arm cfg op l r l' r' sp s s1 hs c01 hkl
        generalize toDdBinary cfg (.bin op l' r' sp) s1 = X at h ⊢
        obtain ⟨res, s2⟩ := X
        exact VRes_of_VC root s _ _ _ (by rw [updateStatus_counter]; exact Nat.le_trans c01 h.1) (by rw [updateStatus_counter]; exact h.2)
      · rw [if_neg hop]
        exact VRes_of_VC root s s1 _ _ c01 (gen_VC (.bin op l r sp) [l', r'] _ _ hs rfl hkl)
    | assign op l r sp =>
      have genA : ∀ rr, VRes rr s (mapKidsM mapM' (visit cfg f rr) (.assign op l r sp) s).2
          (mapKidsM mapM' (visit cfg f rr) (.assign op l r sp) s).1 (.assign op l r sp) := by
        intro rr
        rw [mapKidsM_run]
        refine VRes_of_KRes rr s _ _ _ ?_ (hK rr _ hsk hnk s)
        intro lo hi hkl
        obtain ⟨l', r', he⟩ := KL_lists_two hkl
        rw [he] at hkl ⊢
        obtain ⟨hl, hr⟩ := KL_pair hkl
        simp only [withKids, List.getD_cons_zero, List.getD_cons_succ]
        exact assign_VC hs hl hr
      by_cases hp : cfg.plusEnabled = true
      case neg => rw [visit_assign, if_neg hp]; exact genA root
      obtain ⟨l', r', s1, hk1⟩ := mapM'_pair (visit cfg f false) l r s
      rw [visit_assign_run cfg f root hp op l r sp s hk1]
      have hk := hK false [l, r] hsk hnk s
      rw [hk1] at hk
      obtain ⟨c01, hkl⟩ := hk
      dsimp only at c01 hkl
      obtain ⟨hl, hr⟩ := KL_pair hkl
      by_cases hop : (op == "+=") = true
      · rw [if_pos hop]
        obtain rfl : op = "+=" := eq_of_beq hop
        have h := assign_arm cfg l r l' r' sp s s1 hs c01 hkl
        generalize toDdAssign cfg (.assign "+=" l' r' sp) s1 = X at h ⊢
        obtain ⟨res, s2⟩ := X
        exact VRes_of_VC root s _ _ _ (by rw [updateStatus_counter]; exact Nat.le_trans c01 h.1) (by rw [updateStatus_counter]; exact h.2)
      · rw [if_neg hop]
        exact VRes_of_VC root s s1 _ _ c01 (assign_VC hs hl hr)
    | tpl es qs sp =>
      have hq : qs.all inertT = true := by
        have := srcOk_self hs; simpa [srcNode] using this
      have hqb : noBlkL qs = true := by
        unfold noBlkL
        rw [List.all_eq_true]
        intro q hq'
        exact inertT_noBlk q (List.all_eq_true.mp hq q hq')
      have hses : ∀ k ∈ es, srcOk k = true := fun k hk => hsk k (by simp [kids, hk])
      have hsqs : ∀ k ∈ qs, srcOk k = true := fun k hk => hsk k (by simp [kids, hk])
      have hnes : ∀ k ∈ es, noOpt cfg k = true := fun k hk => hnk k (by simp [kids, hk])
      have hnqs : ∀ k ∈ qs, noOpt cfg k = true := fun k hk => hnk k (by simp [kids, hk])
      have tk := fun rr => tpl_kids cfg f rr es qs s hq (hK rr es hses hnes s) (fun s1 => hK rr qs hsqs hnqs s1)
      have hwk : ∀ rr, (Node.tpl es qs sp).withKids (mapM' (visit cfg f rr) (es ++ qs) s).1
          = .tpl (mapM' (visit cfg f rr) es s).1 qs sp := by
        intro rr
        rw [(tk rr).1]
        simp only [withKids]
        have hl := mapM'_length (visit cfg f rr) es s
        rw [← hl, List.take_left, List.drop_left]
      have genT : ∀ rr, VRes rr s (mapKidsM mapM' (visit cfg f rr) (.tpl es qs sp) s).2
          (mapKidsM mapM' (visit cfg f rr) (.tpl es qs sp) s).1 (.tpl es qs sp) := by
        intro rr
        rw [mapKidsM_run]
        simp only [kids]
        rw [hwk rr]
        have := (tk rr).2
        cases rr
        · exact ⟨this.1, tpl_VC this.2 hqb⟩
        · obtain ⟨hi, hk⟩ := this; exact ⟨hi, tpl_VC hk hqb⟩
      by_cases hp : cfg.tplEnabled = true
      case neg => rw [visit_tpl, if_neg hp]; exact genT root
      by_cases hg : (!es.isEmpty && es.all (fun e => !e.isLit)) = true
      case neg => rw [visit_tpl, if_pos hp, if_neg hg]; exact VRes_src root _ _ _ hs rfl
      rw [visit_tpl_run cfg f root hp es qs sp s hg (ks' := (mapM' (visit cfg f false) (es ++ qs) s).1)
        (s1 := (mapM' (visit cfg f false) (es ++ qs) s).2) rfl, hwk false]
      obtain ⟨c01, hkl⟩ := (tk false).2
      generalize (mapM' (visit cfg f false) (es ++ qs) s).2 = s1 at c01 hkl ⊢
      generalize (mapM' (visit cfg f false) es s).1 = es' at hkl ⊢
      have h := tpl_arm cfg es es' qs sp s s1 c01 hkl hqb
      generalize toDdTpl cfg (.tpl es' qs sp) s1 = X at h ⊢
      obtain ⟨res, s2⟩ := X
      exact VRes_of_VC root s _ _ _ (by rw [updateStatus_counter]; have := h.1; dsimp only at this ⊢; omega)
        (by rw [updateStatus_counter]; exact h.2)
    | call c as sp =>
      obtain ⟨c', as', s1, hk1⟩ := mapM'_cons_ex (visit cfg f false) c as s
      rw [visit_call_run cfg f root c as sp s hk1]
      have hk := hK false (c :: as) hsk hnk s
      have hargs : as.all isArgN = true := by
        have := srcOk_self hs
        simp only [srcNode, Bool.and_eq_true] at this
        exact this.2
      have hAA0 : Forall2 (fun a' a => ∃ sA e' e, a' = Node.arg sA e' ∧ a = Node.arg sA e)
          (mapM' (visit cfg f false) (c :: as) s).1.tail as := by
        simp only [mapM', run_bind, run_pure, List.tail_cons]
        exact mapM'_argShape cfg f false as _ hargs
      rw [hk1] at hk hAA0
      obtain ⟨c01, hkl⟩ := hk
      dsimp only at c01 hkl
      obtain ⟨hc, ha⟩ := KL_cons hkl
      simp only [List.tail_cons] at hAA0
      by_cases hn : isNonExprCallee c' = true
      · rw [if_pos hn]; exact VRes_of_VC root s s1 _ _ c01 (call_VC hs hc ha)
      · rw [if_neg hn]
        have h := call_arm cfg c c' as as' sp s s1 hs c01 hc ha hAA0
        generalize toDdCall cfg (.call c' as' sp) s1 = X at h ⊢
        obtain ⟨res, s2⟩ := X
        have c12 : s1.counter ≤ s2.counter := h.1
        have c02 : s.counter ≤ s2.counter := Nat.le_trans c01 c12
        cases res with
        | none => exact VRes_of_VC root s s2 _ _ c02 ((call_VC hs hc ha).mono (Nat.le_refl _) c12)
        | some et =>
          obtain ⟨e', tag⟩ := et
          exact VRes_of_VC root s _ _ _ (by rw [updateStatus_counter]; exact c02)
            (by rw [updateStatus_counter]; exact h.2 e' tag rfl)
    | _ => rw [visit_default cfg f root rfl]; exact gen root rfl

end IastModel
