import IastModel.Lemmas.BeqEq
import IastModel.Lemmas.Monad
namespace IastModel
open Node

theorem Env.get_cons_same (σ : Env) (n : Nat) (v : Node) : Env.get ((n, v) :: σ) n = some v := by
  simp [Env.get, List.find?]

theorem Env.get_cons_ne (σ : Env) (n m : Nat) (v : Node) (h : m ≠ n) : Env.get ((m, v) :: σ) n = Env.get σ n := by
  have : (m == n) = false := by simpa using h
  simp [Env.get, List.find?, this]

theorem Env.get_append_of_notin (Δ σ : Env) (n : Nat) (h : ∀ p ∈ Δ, p.1 ≠ n) : Env.get (Δ ++ σ) n = Env.get σ n := by
  induction Δ with
  | nil => rfl
  | cons p Δ ih =>
    obtain ⟨m, v⟩ := p
    rw [List.cons_append, Env.get_cons_ne _ _ _ _ (h (m, v) (by simp))]
    exact ih (fun q hq => h q (by simp [hq]))

theorem map_dummy_eq_iff {s t : Option Span} :
    (s.map fun _ => Span.dummy) = (t.map fun _ => Span.dummy) ↔ s.isSome = t.isSome := by
  cases s <;> cases t <;> simp

theorem ESim_arg {s t : Option Span} {X e : Node} : ESim (.arg s X) (.arg t e) ↔ s.isSome = t.isSome ∧ ESim X e := by
  constructor
  · intro ⟨h1, h2, h3⟩
    simp only [strip, arg.injEq] at h1
    exact ⟨map_dummy_eq_iff.mp h1.1, h1.2, h2, h3⟩
  · intro ⟨hs, h1, h2, h3⟩
    exact ⟨by simp only [strip, h1, map_dummy_eq_iff.mpr hs], h2, h3⟩

theorem srcOk_eq (n : Node) : srcOk n = (srcNode n && srcOkL n.kids) := by
  unfold srcOk srcOkL
  rw [Node.all_eq]
  rfl

theorem srcOk_kids {n : Node} (h : srcOk n = true) : ∀ k ∈ n.kids, srcOk k = true := by
  rw [srcOk_eq, Bool.and_eq_true] at h
  intro k hk
  exact List.all_eq_true.mp h.2 k hk

theorem srcOk_self {n : Node} (h : srcOk n = true) : srcNode n = true := by
  rw [srcOk_eq, Bool.and_eq_true] at h
  exact h.1

theorem eraseL_id (l : List Node) (h : ∀ k ∈ l, ∀ σ, erase σ k = (k, σ)) : ∀ σ, eraseL σ l = (l, σ) := by
  induction l with
  | nil => intro σ; rfl
  | cons x xs ih =>
    intro σ
    simp only [eraseL]
    rw [h x (by simp) σ]
    simp only
    rw [ih (fun k hk => h k (by simp [hk])) σ]

theorem headIsTempAssign_src (es : List Node) (h : ∀ k ∈ es, srcOk k = true) : headIsTempAssign es = false := by
  cases es with
  | nil => rfl
  | cons e es =>
    have he := srcOk_kids (h e (by simp))
    have h0 := h e (by simp)
    simp only [headIsTempAssign]
    unfold isTempAssign
    split
    · rename_i n sp r sp'
      have := srcOk_self (he (.ident (.temp n) sp) (by simp [kids]))
      simp [srcNode] at this
    · rfl

theorem Forall2.ind {α β : Type} {R : α → β → Prop} {P : List α → List β → Prop} (nil : P [] [])
    (cons : ∀ a b as bs, R a b → Forall2 R as bs → P as bs → P (a :: as) (b :: bs)) :
    ∀ {xs : List α} {ys : List β}, Forall2 R xs ys → P xs ys := by
  intro xs
  induction xs with
  | nil =>
    intro ys h
    cases ys with
    | nil => exact nil
    | cons _ _ => exact False.elim h
  | cons x xs ih =>
    intro ys h
    cases ys with
    | nil => exact False.elim h
    | cons y ys =>
      have h' : R x y ∧ Forall2 R xs ys := h
      exact cons x y xs ys h'.1 h'.2 (ih h'.2)

theorem forall2_imp {α β : Type} {R S : α → β → Prop} (h : ∀ a b, R a b → S a b) {xs : List α} {ys : List β}
    (hf : Forall2 R xs ys) : Forall2 S xs ys :=
  hf.ind (P := Forall2 S) trivial fun a b _ _ hab _ ih => ⟨h a b hab, ih⟩

end IastModel
