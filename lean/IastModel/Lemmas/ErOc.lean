import IastModel.Lemmas.ErVisit
/-
  An optional chain that is not lowered: when no link of the chain triggers the lowering under the
  configuration, the optional-chain transform hands the expression back as it is and allocates nothing.
-/
namespace IastModel
open Node

/-- states that differ at most in the out-of-fuel flag -/
def SameButFuel (s' s : St) : Prop :=
  s'.counter = s.counter ∧ s'.idents = s.idents ∧ s'.vars = s.vars ∧ s'.status = s.status ∧ s'.incs = s.incs

theorem SameButFuel.refl (s : St) : SameButFuel s s := ⟨rfl, rfl, rfl, rfl, rfl⟩
theorem SameButFuel.trans {a b c : St} (h1 : SameButFuel a b) (h2 : SameButFuel b c) : SameButFuel a c :=
  ⟨h1.1.trans h2.1, h1.2.1.trans h2.2.1, h1.2.2.1.trans h2.2.2.1, h1.2.2.2.1.trans h2.2.2.2.1, h1.2.2.2.2.trans h2.2.2.2.2⟩

/-- `v` hands every sub-expression it is given back unchanged -/
def IdOn (v : Node → OcM Node) (P : Node → Prop) : Prop :=
  ∀ k oc s, oc.found = false → P k → (v k oc s).1.1 = k ∧ (v k oc s).1.2 = oc ∧ SameButFuel (v k oc s).2 s

theorem ocSpine_id (v : Node → OcM Node) (cfg : Config) (hv : IdOn v (fun k => noOpt cfg k = true)) (e : Node) (oc : OcSt) (s : St)
    (hf : oc.found = false) (he : noOpt cfg e = true) :
    (ocSpine v e oc s).1.1 = e ∧ (ocSpine v e oc s).1.2 = oc ∧ SameButFuel (ocSpine v e oc s).2 s := by
  have kid : ∀ k, k ∈ e.kids → noOpt cfg k = true := noOpt_kids he
  unfold ocSpine
  split
  · rename_i o callee args csp sp
    have h1 : noOpt cfg callee = true :=
      noOpt_kids (kid (.optCall callee args csp) (by simp [kids])) callee (by simp [kids])
    obtain ⟨a, b, c⟩ := hv callee oc s hf h1
    simp only [oc_bind, oc_pure]
    exact ⟨by rw [a], b, c⟩
  · rename_i o obj prop msp sp
    have h1 : noOpt cfg obj = true :=
      noOpt_kids (kid (.member obj prop msp) (by simp [kids])) obj (by simp [kids])
    obtain ⟨a, b, c⟩ := hv obj oc s hf h1
    simp only [oc_bind, oc_pure]
    exact ⟨by rw [a], b, c⟩
  · rename_i callee args sp
    split
    · simp only [oc_pure]; exact ⟨trivial, trivial, SameButFuel.refl s⟩
    · obtain ⟨a, b, c⟩ := hv callee oc s hf (kid callee (by simp [kids]))
      simp only [oc_bind, oc_pure]
      exact ⟨by rw [a], b, c⟩
  · rename_i obj prop sp
    obtain ⟨a, b, c⟩ := hv obj oc s hf (kid obj (by simp [kids]))
    simp only [oc_bind, oc_pure]
    exact ⟨by rw [a], b, c⟩
  · simp only [oc_pure]; exact ⟨trivial, trivial, SameButFuel.refl s⟩

theorem ocVisit_id (cfg : Config) : ∀ (f : Nat) (n : Node) (oc : OcSt) (s : St), oc.found = false → noOpt cfg n = true →
    (ocVisit cfg f n oc s).1.1 = n ∧ (ocVisit cfg f n oc s).1.2 = oc ∧ SameButFuel (ocVisit cfg f n oc s).2 s := by
  intro f
  induction f with
  | zero =>
    intro n oc s _ _
    simp only [ocVisit, oc_bind, oc_lift, oc_pure]
    exact ⟨trivial, trivial, ⟨rfl, rfl, rfl, rfl, rfl⟩⟩
  | succ f ih =>
    intro n oc s hf hn
    unfold ocVisit
    split
    · rename_i optional base sp
      rw [oc_bind, oc_get]
      show ((ite (oc.found = true) _ _ : OcM Node) oc s).1.1 = _ ∧ ((ite (oc.found = true) _ _ : OcM Node) oc s).1.2 = _ ∧
        SameButFuel ((ite (oc.found = true) _ _ : OcM Node) oc s).2 s
      rw [if_neg (by rw [hf]; exact Bool.false_ne_true)]
      have htr : ocTrigger cfg optional base = false := by
        have := hn
        rw [noOpt_eq, Bool.and_eq_true] at this
        simpa [noOptK] using this.1
      rw [if_neg (by rw [htr]; exact Bool.false_ne_true)]
      exact ocSpine_id (ocVisit cfg f) cfg (fun k oc' s' hf' hk => ih k oc' s' hf' hk) _ oc s hf hn
    · rw [oc_pure]; exact ⟨rfl, rfl, SameButFuel.refl s⟩


/-- `to_dd_cond_expr` on a chain that is not lowered: nothing happens -/
theorem toDdCond_id (cfg : Config) (fuel : Nat) (e : Node) (s : St) (h : noOpt cfg e = true) :
    (toDdCond cfg fuel e s).1 = (e, none) ∧ SameButFuel (toDdCond cfg fuel e s).2 s := by
  have hid := ocVisit_id cfg fuel e {} s rfl h
  unfold toDdCond
  simp only [run_bind, StateT.run]
  generalize ocVisit cfg fuel e {} s = R at hid
  obtain ⟨⟨e', oc⟩, s1⟩ := R
  obtain ⟨a, b, c⟩ := hid
  dsimp only at a b c ⊢
  subst a b
  simp only [run_pure]
  exact ⟨trivial, c⟩

end IastModel
