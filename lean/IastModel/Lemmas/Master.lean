import IastModel.Lemmas.BlockSpec
import IastModel.Rewriter.Rewrite
/-
  The master theorem of the instrumentation pass (`master`): hook sites = telemetry increments, only configured names,
  status ⇔ hooks; with `hooks`/`hookCount` read off goodness, the prologue (no hook in it), and the equations of `programVisit`
  (`programVisit_eq`, `programVisit_reserved`, `transformProgram_run`).
-/
namespace IastModel
open Node

def hookCountL (l : List Node) : Nat := (l.map hookCount).sum

theorem hookCount_eq (n : Node) : hookCount n = (if isHook n then 1 else 0) + hookCountL n.kids := count_eq' isHook n

@[simp] theorem hookCountL_nil : hookCountL [] = 0 := rfl
@[simp] theorem hookCountL_cons (x : Node) (xs : List Node) : hookCountL (x :: xs) = hookCount x + hookCountL xs :=
  countL_cons isHook x xs
@[simp] theorem hookCountL_append (xs ys : List Node) : hookCountL (xs ++ ys) = hookCountL xs + hookCountL ys :=
  countL_append isHook xs ys

theorem isHook_of_none {n : Node} (h : hookName? n = none) : isHook n = false := by simp [isHook, h]
theorem isHook_of_some {n : Node} {nm : String} (h : hookName? n = some nm) : isHook n = true := by simp [isHook, h]

/-- in a good tree the references to the namespace are exactly the hook call sites -/
theorem good_ns_hookCount (ok) : ∀ n : Node, goodW ok false n = true → ns n = hookCount n := by
  apply Node.ind
  intro n ih hg
  rw [goodW_eq] at hg
  simp only [Bool.false_and, Bool.false_eq_true, if_false] at hg
  have hL : ∀ l : List Node, (∀ k ∈ l, k ∈ n.kids) → goodL ok false l = true → nsL l = hookCountL l := by
    intro l
    induction l with
    | nil => intro _ _; rfl
    | cons x xs ihl =>
      intro hm hgl
      simp only [goodL_cons, Bool.and_eq_true] at hgl
      simp only [nsL_cons, hookCountL_cons]
      rw [ih x (hm x (by simp)) hgl.1, ihl (fun k hk => hm k (by simp [hk])) hgl.2]
  cases hh : hookName? n with
  | some nm =>
    obtain ⟨x, isp, psp, msp, args, sp, rfl, hx⟩ := hookName?_some hh
    rw [hh] at hg
    simp only [kids, List.drop_succ_cons, List.drop_zero, Bool.and_eq_true] at hg
    have ha := hL args (by intro k hk; simp [kids, hk]) hg.2
    rw [hookCount_eq, isHook_of_some hh]
    simp only [kids, hookCountL_cons, ns_call, ns_member, ns_user, hx, if_true, ns_pname]
    rw [hookCount_eq (.member _ _ _)]
    simp only [kids, hookCountL_cons, hookCountL_nil]
    rw [hookCount_eq (.ident _ _), hookCount_eq (.pname _ _)]
    simp [isHook, hookName?, kids, ha]
  | none =>
    rw [hh] at hg
    simp only [Bool.and_eq_true, Bool.not_eq_true'] at hg
    rw [ns_eq, hookCount_eq, isHook_of_none hh, hg.1, hL n.kids (fun k hk => hk) hg.2]

theorem mem_hookNames {n : Node} {nm : String} (h : nm ∈ hookNames n) :
    hookName? n = some nm ∨ ∃ k ∈ n.kids, nm ∈ hookNames k := by
  unfold hookNames hooks at h
  rw [Node.collect_eq] at h
  simp only [List.filterMap_append, List.mem_append, List.mem_filterMap, List.mem_flatten, List.mem_map] at h
  rcases h with ⟨a, ha, hnm⟩ | ⟨a, ⟨l, ⟨k, hk, rfl⟩, ha⟩, hnm⟩
  · left
    by_cases hi : isHook n = true
    · simp only [hi, if_true, List.mem_singleton] at ha
      subst ha; exact hnm
    · simp [hi] at ha
  · right
    refine ⟨k, hk, ?_⟩
    unfold hookNames hooks
    simp only [List.mem_filterMap]
    exact ⟨a, ha, hnm⟩

/-- in a good tree every hook name is acceptable -/
theorem good_hookNames (ok) : ∀ n : Node, goodW ok false n = true → ∀ nm ∈ hookNames n, ok nm = true := by
  apply Node.ind
  intro n ih hg nm hnm
  rw [goodW_eq] at hg
  simp only [Bool.false_and, Bool.false_eq_true, if_false] at hg
  rcases mem_hookNames hnm with hself | ⟨k, hk, hkn⟩
  · rw [hself] at hg
    simp only [Bool.and_eq_true] at hg
    exact hg.1
  · cases hh : hookName? n with
    | some nm' =>
      obtain ⟨x, isp, psp, msp, args, sp, rfl, hx⟩ := hookName?_some hh
      rw [hh] at hg
      simp only [kids, List.drop_succ_cons, List.drop_zero, Bool.and_eq_true] at hg
      simp only [kids, List.mem_cons] at hk
      rcases hk with rfl | hk
      · -- the callee has no hook call inside
        rcases mem_hookNames hkn with h | ⟨k2, hk2, h2⟩
        · simp [hookName?] at h
        · simp only [kids, List.mem_cons, List.not_mem_nil, or_false] at hk2
          rcases hk2 with rfl | rfl
          · rcases mem_hookNames h2 with h | ⟨k3, hk3, _⟩
            · simp [hookName?] at h
            · simp [kids] at hk3
          · rcases mem_hookNames h2 with h | ⟨k3, hk3, _⟩
            · simp [hookName?] at h
            · simp [kids] at hk3
      · have : goodW ok false k = true := by
          unfold goodL at hg
          rw [List.all_eq_true] at hg
          exact hg.2 k hk
        exact ih k (by simp [kids, hk]) this nm hkn
    | none =>
      rw [hh] at hg
      simp only [Bool.and_eq_true] at hg
      have : goodW ok false k = true := by
        have := hg.2
        unfold goodL at this
        rw [List.all_eq_true] at this
        exact this k hk
      exact ih k hk this nm hkn


theorem programVisit_eq (cfg : Config) (pro : List Node) (fuel : Nat) (p : Node) (s : St)
    (h : hasReserved (tempPrefix cfg.localVarPrefix) p = false) :
    programVisit cfg pro fuel p s =
      (if (mapKidsM mapM' (blockVisit cfg fuel fuel) p s).2.status = .modified
        then insertPrologue pro (mapKidsM mapM' (blockVisit cfg fuel fuel) p s).1
        else (mapKidsM mapM' (blockVisit cfg fuel fuel) p s).1,
       (mapKidsM mapM' (blockVisit cfg fuel fuel) p s).2) := by
  unfold programVisit
  simp only [h, Bool.false_eq_true, if_false, run_bind, run_get]
  generalize mapKidsM mapM' (blockVisit cfg fuel fuel) p s = R
  obtain ⟨p1, s1⟩ := R
  simp only
  by_cases hm : s1.status = Status.modified
  · have : (s1.status == Status.modified) = true := by rw [hm]; rfl
    show (ite ((s1.status == Status.modified) = true) _ _ : M Node) s1 = _
    rw [if_pos this]; simp only [hm, if_true, run_pure]
  · have : (s1.status == Status.modified) = false := by
      cases hs : s1.status <;> simp_all <;> rfl
    show (ite ((s1.status == Status.modified) = true) _ _ : M Node) s1 = _
    rw [if_neg (by simp [this])]; simp only [hm, if_false, run_pure]

theorem programVisit_reserved (cfg : Config) (pro : List Node) (fuel : Nat) (p : Node) (s : St)
    (h : hasReserved (tempPrefix cfg.localVarPrefix) p = true) :
    (programVisit cfg pro fuel p s).2.status = .cancelled := by
  unfold programVisit
  simp [h, run_bind, run_pure, cancelVisit, run_modify]

/-- what `transformProgram` returns when it is not cancelled: the program with every block visited, the
    prologue in front when the file was modified, and the final state's status and telemetry -/
theorem transformProgram_run (cfg : Config) (fuel : Nat) (p : Node)
    (hnc : (transformProgram cfg fuel p).status ≠ .cancelled) :
    let K := mapKidsM mapM' (blockVisit cfg fuel fuel) p {}
    StOk K.2 ∧ (transformProgram cfg fuel p).status = K.2.status ∧ (transformProgram cfg fuel p).incs = K.2.incs ∧
    (transformProgram cfg fuel p).out =
      (if K.2.status = .modified then insertPrologue (prologue cfg.dsts) K.1 else K.1) ∧
    (transformProgram cfg fuel p).fuelOut = K.2.fuelOut := by
  unfold transformProgram at hnc ⊢
  simp only [StateT.run] at hnc ⊢
  by_cases hr : hasReserved (tempPrefix cfg.localVarPrefix) p = true
  · exact absurd (programVisit_reserved cfg _ fuel p {} hr) hnc
  · simp only [Bool.not_eq_true] at hr
    simp only [programVisit_eq cfg _ fuel p {} hr] at hnc ⊢
    refine ⟨hnc, ?_, ?_, ?_, ?_⟩ <;> trivial

/-- the traversal of the program node: all block statements of a source program are untouched -/
theorem programKids_spec (ok) (cfg : Config) (hcfg : CfgOk ok cfg) (fuel : Nat) (p : Node) (s : St)
    (hs : StOk s) (h0 : ns p = 0) (ht : targetsOk p = true) :
    let R := mapKidsM mapM' (blockVisit cfg fuel fuel) p s
    StOk R.2 → goodW ok false R.1 = true ∧ Eff s R.2 (ns R.1) := by
  intro R hfin
  have hlist := mapBlock_spec ok (blockVisit cfg fuel fuel)
    (fun k s hs hg => blockVisit_spec ok cfg hcfg fuel fuel k s hs hg)
    (fun k s h => blockVisit_canc cfg fuel fuel k s h)
  have hb0 : bad p = 0 := (bad_zero_iff p).mpr ht
  have hk : goodL ok true p.kids = true := by
    apply goodL_of_ns0
    · exact nsL_kids_of_ns0 h0
    · rw [bad_eq] at hb0; omega
  obtain ⟨g3, l3, k3, e3, c3⟩ := hlist p.kids s hs hk hfin
  refine ⟨good_withKids ok false p _ (mentionsNs_of_ns0 h0) (.inl rfl) g3 l3, ?_⟩
  show Eff s R.2 (ns (p.withKids _))
  rw [ns_withKids p _ l3, mentionsNs_of_ns0 h0]
  have : nsL p.kids = 0 := nsL_kids_of_ns0 h0
  exact e3.cast (by simp; omega)


def hooksL (l : List Node) : List Node := (l.map hooks).flatten

theorem hooks_eq (n : Node) : hooks n = (if isHook n then [n] else []) ++ hooksL n.kids := by
  unfold hooksL hooks
  rw [Node.collect_eq]

@[simp] theorem hooksL_nil : hooksL [] = [] := rfl
@[simp] theorem hooksL_cons (x : Node) (xs : List Node) : hooksL (x :: xs) = hooks x ++ hooksL xs := by simp [hooksL]
@[simp] theorem hooksL_append (xs ys : List Node) : hooksL (xs ++ ys) = hooksL xs ++ hooksL ys := by
  simp [hooksL]

theorem hooksL_nil_of (l : List Node) (h : ∀ q ∈ l, hooks q = []) : hooksL l = [] := by
  induction l with
  | nil => rfl
  | cons x xs ih => simp [h x (by simp), ih (fun q hq => h q (by simp [hq]))]

theorem hooks_length : ∀ n : Node, (hooks n).length = hookCount n := by
  apply Node.ind
  intro n ih
  rw [hooks_eq, hookCount_eq]
  have : ∀ l : List Node, (∀ k ∈ l, k ∈ n.kids) → (hooksL l).length = hookCountL l := by
    intro l
    induction l with
    | nil => intro _; rfl
    | cons x xs ihl =>
      intro hm
      simp only [hooksL_cons, List.length_append, hookCountL_cons]
      rw [ih x (hm x (by simp)), ihl (fun k hk => hm k (by simp [hk]))]
  rw [List.length_append, this n.kids (fun k hk => hk)]
  split <;> simp

theorem hooks_insertPrologue (pro : List Node) (p : Node) (h : ∀ q ∈ pro, hooks q = []) :
    hooks (insertPrologue pro p) = hooks p := by
  unfold insertPrologue
  split
  · rename_i k sp ns body vs
    rw [hooks_eq, hooks_eq (.other k sp ("body" :: ns) (.arr body :: vs))]
    simp only [kids, hooksL_cons]
    rw [hooks_eq (.arr _), hooks_eq (.arr body)]
    simp only [kids, insertAt, hooksL_append, hooksL_nil_of pro h, List.append_nil]
    have : hooksL (List.take (variableInsertionIndex body) body) ++ hooksL (List.drop (variableInsertionIndex body) body) = hooksL body := by
      rw [← hooksL_append, List.take_append_drop]
    simp [isHook, hookName?, this]
  · rfl

theorem hooks_prologue (dsts : List String) : ∀ q ∈ prologue dsts, hooks q = [] := by
  have hmap : ∀ l : List String, hooksL (l.map fun k => Node.other "KeyValueProperty" pd ["key", "value"]
      [.pname k pd, puid "noop"]) = [] := by
    intro l
    induction l with
    | nil => rfl
    | cons x xs ih =>
      simp only [List.map_cons, hooksL_cons, ih, List.append_nil]
      simp [hooks_eq, isHook, hookName?, kids, puid]
  intro q hq
  simp only [prologue, List.mem_cons, List.not_mem_nil, or_false] at hq
  rcases hq with rfl | rfl
  · simp [hooks_eq, isHook, hookName?, kids]
  · simp only [puid] at hmap
    simp [hooks_eq, isHook, hookName?, kids, hmap, puid]


/-- the names the configuration lists as replacements -/
def okCfg (cfg : Config) : String → Bool := fun m => cfg.dsts.contains m

theorem find?_dst_mem (cfg : Config) (q : CsiMethod → Bool) (m : CsiMethod) (h : cfg.methods.find? q = some m) :
    okCfg cfg m.dst = true := by
  have := List.mem_of_find?_eq_some h
  simp only [okCfg, Config.dsts, List.contains_iff_mem, List.mem_map]
  exact ⟨m, this, rfl⟩

theorem cfgOk_dsts (cfg : Config) : CfgOk (okCfg cfg) cfg := by
  refine ⟨?_, ?_, ?_⟩
  · intro h
    unfold Config.plusEnabled at h
    unfold Config.plusName
    cases hp : cfg.plusOperator with
    | none => simp [hp] at h
    | some m => exact find?_dst_mem cfg _ m hp
  · intro h
    unfold Config.tplEnabled at h
    unfold Config.tplName
    cases hp : cfg.tplOperator with
    | none => simp [hp] at h
    | some m => exact find?_dst_mem cfg _ m hp
  · intro m csi h
    exact find?_dst_mem cfg _ csi h

/-- **Master theorem of the instrumentation pass.**  For every configuration, every fuel and every
    program that does not mention the hook namespace and whose compound-assignment targets have
    JavaScript shapes: unless the rewrite is refused,
    * the number of hook call sites of the output equals the number of telemetry increments,
    * every hook call site uses a configured replacement name,
    * the status is `modified` exactly when at least one hook was emitted, and then the output is the
      instrumented program with the prologue inserted; otherwise the status is `notModified`. -/
theorem master (cfg : Config) (fuel : Nat) (p : Node) (h0 : ns p = 0) (ht : targetsOk p = true)
    (hnc : (transformProgram cfg fuel p).status ≠ .cancelled) :
    hookCount (transformProgram cfg fuel p).out = (transformProgram cfg fuel p).incs.length ∧
    (∀ nm ∈ hookNames (transformProgram cfg fuel p).out, nm ∈ cfg.dsts) ∧
    ((transformProgram cfg fuel p).status = .modified ↔ (transformProgram cfg fuel p).incs ≠ []) ∧
    ((transformProgram cfg fuel p).status = .notModified ↔ (transformProgram cfg fuel p).incs = []) ∧
    ((transformProgram cfg fuel p).status = .modified →
      ∃ p1, (transformProgram cfg fuel p).out = insertPrologue (prologue cfg.dsts) p1 ∧ hookCount p1 = hookCount (transformProgram cfg fuel p).out) := by
  unfold transformProgram at hnc ⊢
  simp only [StateT.run] at hnc ⊢
  by_cases hr : hasReserved (tempPrefix cfg.localVarPrefix) p = true
  · exact absurd (programVisit_reserved cfg _ fuel p {} hr) hnc
  · simp only [Bool.not_eq_true] at hr
    rw [programVisit_eq cfg _ fuel p {} hr] at hnc ⊢
    simp only at hnc ⊢
    have hs0 : StOk ({} : St) := by intro h; cases h
    have hspec := programKids_spec (okCfg cfg) cfg (cfgOk_dsts cfg) fuel p {} hs0 h0 ht
    generalize mapKidsM mapM' (blockVisit cfg fuel fuel) p {} = R at hspec hnc
    obtain ⟨p1, s1⟩ := R
    simp only at hspec hnc ⊢
    obtain ⟨g, tags, hlen, hincs, hst⟩ := hspec hnc
    have hcount : hookCount p1 = s1.incs.length := by
      rw [← good_ns_hookCount _ p1 g, hincs]
      show ns p1 = ([] ++ tags).length
      simp [hlen]
    have hins : hooks (insertPrologue (prologue cfg.dsts) p1) = hooks p1 :=
      hooks_insertPrologue _ _ (hooks_prologue cfg.dsts)
    have hout : ∀ out, out = (if s1.status = Status.modified then insertPrologue (prologue cfg.dsts) p1 else p1) →
        hooks out = hooks p1 := by
      intro out ho; subst ho; split
      · exact hins
      · rfl
    have hc : hookCount (if s1.status = Status.modified then insertPrologue (prologue cfg.dsts) p1 else p1) = hookCount p1 := by
      rw [← hooks_length, hout _ rfl, hooks_length]
    have hnames : hookNames (if s1.status = Status.modified then insertPrologue (prologue cfg.dsts) p1 else p1) = hookNames p1 := by
      unfold hookNames; rw [hout _ rfl]
    have hk : ns p1 = s1.incs.length := by rw [good_ns_hookCount _ p1 g]; exact hcount
    have hst' : s1.status = if ns p1 = 0 then Status.notModified else Status.modified := hst.1
    refine ⟨by rw [hc]; exact hcount, ?_, ?_, ?_, ?_⟩
    · intro nm hnm
      rw [hnames] at hnm
      have := good_hookNames _ p1 g nm hnm
      simpa [okCfg] using this
    · rw [hst']
      constructor
      · intro h hnil
        rw [hnil] at hk
        simp [hk] at h
      · intro h
        have : ns p1 ≠ 0 := by
          intro hz; rw [hz] at hk
          exact h (List.eq_nil_of_length_eq_zero hk.symm)
        simp [this]
    · rw [hst']
      constructor
      · intro h
        have : ns p1 = 0 := by
          by_cases hz : ns p1 = 0
          · exact hz
          · simp [hz] at h
        rw [this] at hk
        exact List.eq_nil_of_length_eq_zero hk.symm
      · intro h
        rw [h] at hk
        simp [hk]
    · intro hm
      refine ⟨p1, by simp [hm], ?_⟩
      rw [hc]

end IastModel
