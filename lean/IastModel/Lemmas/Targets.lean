import IastModel.Lemmas.CountBasic
/-
  Shapes of compound-assignment targets, and the count of compound assignments whose target has
  none of them (the hypothesis `targetsOk` of the instrumentation theorems, as a number that adds up
  over sub-trees).
-/
namespace IastModel
open Node

def isAtomNode : Node → Bool
  | .atom _ => true
  | _ => false

/-- member property shapes the parser produces: a plain name, a computed key, or a node without
    sub-expressions (a private name) -/
def propShape : Node → Bool
  | .pname .. => true
  | .other "Computed" _ ["expression"] [_] => true
  | .other k _ _ vs => k == "PrivateName" && vs.all isAtomNode
  | _ => false

/-- the shapes of a compound-assignment target in JavaScript: identifier, member access, `super`
    property, or one of these in parentheses -/
def tshape : Node → Bool
  | .ident .. => true
  | .member _ p _ => propShape p
  | .other "SuperPropExpression" _ ["obj", "property"] [.other "Super" _ _ [], p] => propShape p
  | .paren e _ => tshape e
  | _ => false

def assignTargetOk : Node → Bool
  | .assign op l _ _ => op != "+=" || tshape l
  | _ => true

/-- every compound-assignment target of the tree has one of the JavaScript target shapes -/
def targetsOk (n : Node) : Bool := Node.all assignTargetOk n

theorem targetsOk_kids {n : Node} (h : targetsOk n = true) : ∀ k ∈ n.kids, targetsOk k = true := by
  unfold targetsOk at h
  rw [Node.all_eq] at h
  simp only [Bool.and_eq_true, List.all_eq_true] at h
  exact h.2

theorem targetsOk_self {n : Node} (h : targetsOk n = true) : assignTargetOk n = true := by
  unfold targetsOk at h
  rw [Node.all_eq] at h
  simp only [Bool.and_eq_true] at h
  exact h.1

/-- number of compound assignments in the tree whose target does not have a JavaScript target shape -/
def bad (n : Node) : Nat := Node.count (fun k => !assignTargetOk k) n
def badL (l : List Node) : Nat := (l.map bad).sum

theorem bad_eq (n : Node) : bad n = (if assignTargetOk n then 0 else 1) + badL n.kids := by
  unfold badL
  show Node.count _ n = _
  rw [Node.count_eq]
  cases assignTargetOk n <;> rfl

@[simp] theorem badL_nil : badL [] = 0 := rfl
@[simp] theorem badL_cons (x : Node) (xs : List Node) : badL (x :: xs) = bad x + badL xs := countL_cons _ x xs
@[simp] theorem badL_append (xs ys : List Node) : badL (xs ++ ys) = badL xs + badL ys := countL_append _ xs ys

theorem badL_eq_zero (l : List Node) (h : badL l = 0) : ∀ k ∈ l, bad k = 0 := countL_eq_zero _ h

theorem badL_zero_of : ∀ (l : List Node), (∀ k ∈ l, bad k = 0) → badL l = 0 := by
  intro l
  induction l with
  | nil => intro _; rfl
  | cons x xs ih =>
    intro h
    simp only [badL_cons]
    rw [h x (by simp), ih (fun k hk => h k (by simp [hk]))]

theorem bad_zero_iff : ∀ n : Node, bad n = 0 ↔ targetsOk n = true := by
  apply Node.ind
  intro n ih
  rw [bad_eq]
  unfold targetsOk
  rw [Node.all_eq]
  simp only [Bool.and_eq_true, List.all_eq_true]
  constructor
  · intro h
    have h1 : assignTargetOk n = true := by cases hh : assignTargetOk n <;> simp_all
    refine ⟨h1, ?_⟩
    intro k hk
    have : badL n.kids = 0 := by omega
    exact (ih k hk).mp (badL_eq_zero _ this k hk)
  · intro ⟨h1, h2⟩
    simp only [h1, if_true, Nat.zero_add]
    exact badL_zero_of _ (fun k hk => (ih k hk).mpr (h2 k hk))

@[simp] theorem bad_lit (k v r : String) (sp : Span) : bad (.lit k v r sp) = 0 := count_lit _ k v r sp
@[simp] theorem bad_pname (n : String) (sp : Span) : bad (.pname n sp) = 0 := count_pname _ n sp
@[simp] theorem bad_ident (n : Name) (sp : Span) : bad (.ident n sp) = 0 := count_ident _ n sp
@[simp] theorem bad_bin (op : String) (l r : Node) (sp : Span) : bad (.bin op l r sp) = bad l + bad r := (count_bin _ op l r sp).trans (Nat.zero_add _)
theorem bad_assign_eq (l r : Node) (sp : Span) : bad (.assign "=" l r sp) = bad l + bad r :=
  (count_assign _ "=" l r sp).trans (Nat.zero_add _)
@[simp] theorem bad_member (o p : Node) (sp : Span) : bad (.member o p sp) = bad o + bad p := (count_member _ o p sp).trans (Nat.zero_add _)
@[simp] theorem bad_call (c : Node) (as : List Node) (sp : Span) : bad (.call c as sp) = bad c + badL as := (count_call _ c as sp).trans (Nat.zero_add _)
@[simp] theorem bad_arg (s : Option Span) (e : Node) : bad (.arg s e) = bad e := (count_arg _ s e).trans (Nat.zero_add _)
@[simp] theorem bad_paren (e : Node) (sp : Span) : bad (.paren e sp) = bad e := (count_paren _ e sp).trans (Nat.zero_add _)
@[simp] theorem bad_seq (es : List Node) (sp : Span) : bad (.seq es sp) = badL es := (count_seq _ es sp).trans (Nat.zero_add _)
@[simp] theorem bad_array (es : List Node) (sp : Span) : bad (.array es sp) = badL es := (count_array _ es sp).trans (Nat.zero_add _)
@[simp] theorem bad_cond (t c a : Node) (sp : Span) : bad (.cond t c a sp) = bad t + bad c + bad a := (count_cond _ t c a sp).trans (Nat.zero_add _)
@[simp] theorem bad_optChain (o : Bool) (b : Node) (sp : Span) : bad (.optChain o b sp) = bad b := (count_optChain _ o b sp).trans (Nat.zero_add _)
@[simp] theorem bad_optCall (c : Node) (as : List Node) (sp : Span) : bad (.optCall c as sp) = bad c + badL as := (count_optCall _ c as sp).trans (Nat.zero_add _)

@[simp] theorem bad_atom (a : String) : bad (.atom a) = 0 := count_atom _ a
@[simp] theorem bad_unary (op : String) (a : Node) (sp : Span) : bad (.unary op a sp) = bad a := (count_unary _ op a sp).trans (Nat.zero_add _)
@[simp] theorem bad_tpl (es qs : List Node) (sp : Span) : bad (.tpl es qs sp) = badL es + badL qs := (count_tpl _ es qs sp).trans (Nat.zero_add _)
@[simp] theorem bad_other (k : String) (sp : Span) (ns' : List String) (vs : List Node) : bad (.other k sp ns' vs) = badL vs := (count_other _ k sp ns' vs).trans (Nat.zero_add _)
@[simp] theorem bad_block (ss : List Node) (sp : Span) : bad (.block ss sp) = badL ss := (count_block _ ss sp).trans (Nat.zero_add _)
@[simp] theorem bad_arrow (ps : List Node) (b : Node) (a : String) (sp : Span) : bad (.arrow ps b a sp) = badL ps + bad b := (count_arrow _ ps b a sp).trans (Nat.zero_add _)

end IastModel
