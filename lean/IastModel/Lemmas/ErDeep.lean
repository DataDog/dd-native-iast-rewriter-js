import IastModel.Lemmas.ErTr
/-
  `Deep lo hi n' n`: where the rewritten tree `n'` still has the constructor of the source tree `n`
  (member access, parentheses, argument, array literal, generic node), its parts are erasable one by
  one.  The transforms that take an operand apart (`+=` targets, `apply` argument arrays) need the
  parts, not only the whole.
-/
namespace IastModel
open Node

mutual
def Deep (lo hi : Nat) : Node → Node → Prop
  | .member o' p' sp', .member o p sp =>
    sp = sp' ∧ ErAll lo hi o' o ∧ ErAll lo hi p' p ∧ Deep lo hi o' o ∧ Deep lo hi p' p ∧ (o'.isIdent = true → o' = o)
  | .paren i' sp', n => isSplittableInner i' = true →
      ∃ i, n = .paren i sp' ∧ (i'.span == sp') = false ∧ ErAll lo hi i' i ∧ Deep lo hi i' i
  | .other k' sp' ns' vs', .other k sp ns vs => k = k' ∧ sp = sp' ∧ ns = ns' ∧ DeepL lo hi vs' vs
  | .array es' sp', .array es sp => sp = sp' ∧ DeepL lo hi es' es
  | .arg s' e', .arg s e => s = s' ∧ ErAll lo hi e' e ∧ Deep lo hi e' e
  | _, _ => True
def DeepL (lo hi : Nat) : List Node → List Node → Prop
  | [], [] => True
  | x' :: xs', x :: xs => ErAll lo hi x' x ∧ Deep lo hi x' x ∧ DeepL lo hi xs' xs
  | _, _ => False
end

theorem Deep.mono {lo hi lo' hi' : Nat} (h1 : lo' ≤ lo) (h2 : hi ≤ hi') :
    ∀ (n' n : Node), Deep lo hi n' n → Deep lo' hi' n' n := by
  intro n' n
  -- by the recursion of `Deep` itself: its five clauses, every other pair of trees at once, and the lists
  induction n', n using Deep.induct (motive_2 := fun l' l => DeepL lo hi l' l → DeepL lo' hi' l' l) with
  | case1 o' p' sp' o p sp ho hp =>
    intro h
    simp only [Deep] at h ⊢
    exact ⟨h.1, h.2.1.mono h1 h2, h.2.2.1.mono h1 h2, ho h.2.2.2.1, hp h.2.2.2.2.1, h.2.2.2.2.2⟩
  | case2 i' sp' n hi'' =>
    intro h
    simp only [Deep] at h ⊢
    intro hs
    obtain ⟨i, a, b, c, d⟩ := h hs
    exact ⟨i, a, b, c.mono h1 h2, hi'' i d⟩
  | case3 k' sp' ns' vs' k sp ns vs hvs =>
    intro h
    simp only [Deep] at h ⊢
    exact ⟨h.1, h.2.1, h.2.2.1, hvs h.2.2.2⟩
  | case4 es' sp' es sp hes =>
    intro h
    simp only [Deep] at h ⊢
    exact ⟨h.1, hes h.2⟩
  | case5 s' e' s e he =>
    intro h
    simp only [Deep] at h ⊢
    exact ⟨h.1, h.2.1.mono h1 h2, he h.2.2⟩
  | case6 t x =>
    intro _
    rw [Deep]
    · trivial
    all_goals assumption
  | case7 => simp only [DeepL]
  | case8 x' xs' x xs hx hxs =>
    rename_i h
    simp only [DeepL] at h ⊢
    exact ⟨h.1.mono h1 h2, hx h.2.1, hxs h.2.2⟩
  | case9 t x =>
    rename_i h
    rw [DeepL] at h
    · exact h.elim
    all_goals assumption
theorem DeepL.mono {lo hi lo' hi' : Nat} (h1 : lo' ≤ lo) (h2 : hi ≤ hi') :
    ∀ (l' l : List Node), DeepL lo hi l' l → DeepL lo' hi' l' l := by
  intro l'
  induction l' with
  | nil => intro l h; cases l <;> simp_all [DeepL]
  | cons x' xs' ih =>
    intro l h
    cases l with
    | nil => simp [DeepL] at h
    | cons x xs =>
      simp only [DeepL] at h ⊢
      exact ⟨h.1.mono h1 h2, Deep.mono h1 h2 _ _ h.2.1, ih xs h.2.2⟩

theorem DeepL.forall2 {lo hi : Nat} : ∀ {l' l : List Node}, DeepL lo hi l' l →
    Forall2 (fun a' a => ErAll lo hi a' a ∧ Deep lo hi a' a) l' l := by
  intro l'
  induction l' with
  | nil => intro l h; cases l <;> simp_all [DeepL, Forall2]
  | cons x' xs' ih =>
    intro l h
    cases l with
    | nil => simp [DeepL] at h
    | cons x xs =>
      simp only [DeepL] at h
      simp only [Forall2]
      exact ⟨⟨h.1, h.2.1⟩, ih h.2.2⟩

end IastModel
