import IastModel.Lemmas.VisitSpec
/-
  The block visitor under the master invariant (`blockVisit_spec`, conditional on the run not being cancelled): what it
  does on a block statement (`blockVisit_block`: fresh provider, statements visited, duplicate check, `let` inserted,
  nested traversal) and on any other node (`blockVisit_generic`), cancellation being sticky (`blockVisit_canc`).
-/
namespace IastModel
open Node

theorem ns_arr (xs : List Node) : ns (.arr xs) = nsL xs := (count_arr mentionsNs xs).trans (Nat.zero_add _)
theorem bad_arr (xs : List Node) : bad (.arr xs) = badL xs := (count_arr _ xs).trans (Nat.zero_add _)

/-- a tree whose blocks are all untouched is in particular good -/
theorem good_true_false (ok) : ∀ n : Node, goodW ok true n = true → goodW ok false n = true := by
  apply Node.ind
  intro n ih h
  rw [goodW_eq] at h
  by_cases hb : isBlockNode n = true
  · rw [hb, if_pos (by rfl), Bool.and_eq_true, beq_iff_eq, beq_iff_eq] at h
    exact good_of_ns0 ok false n h.1 h.2
  · rw [Bool.not_eq_true] at hb
    rw [hb, if_neg (by decide)] at h
    rw [goodW_eq, Bool.false_and, if_neg Bool.false_ne_true]
    have hl : ∀ l : List Node, (∀ k ∈ l, k ∈ n.kids) → goodL ok true l = true → goodL ok false l = true :=
      fun l hm hg => List.all_eq_true.mpr fun k hk => ih k (hm k hk) (List.all_eq_true.mp hg k hk)
    cases hh : hookName? n <;> rw [hh] at h <;> rw [Bool.and_eq_true] at h ⊢
    · exact ⟨h.1, hl _ (fun _ hk => hk) h.2⟩
    · exact ⟨h.1, hl _ (fun _ hk => List.mem_of_mem_drop hk) h.2⟩

theorem goodL_true_false (ok) (l : List Node) (h : goodL ok true l = true) : goodL ok false l = true :=
  List.all_eq_true.mpr fun k hk => good_true_false ok k (List.all_eq_true.mp h k hk)

theorem isBlockNode_eq {n : Node} (h : isBlockNode n = true) : ∃ ss sp, n = .block ss sp := by
  unfold isBlockNode at h
  split at h
  · exact ⟨_, _, rfl⟩
  · cases h

theorem blockVisit_generic (cfg : Config) (opFuel f : Nat) (n : Node) (hb : isBlockNode n = false) :
    blockVisit cfg opFuel (f + 1) n = mapKidsM mapM' (blockVisit cfg opFuel f) n := by
  cases n <;> first | rfl | cases hb

theorem mapM'_canc (g : Node → M Node) (hg : ∀ k s, s.status = .cancelled → (g k s).2.status = .cancelled) :
    ∀ (ks : List Node) (s : St), s.status = .cancelled → (mapM' g ks s).2.status = .cancelled
  | [], _, h => h
  | k :: ks, s, h => mapM'_canc g hg ks _ (hg k s h)

theorem blockVisit_canc (cfg : Config) (opFuel : Nat) : ∀ (f : Nat) (n : Node) (s : St),
    s.status = .cancelled → (blockVisit cfg opFuel f n s).2.status = .cancelled
  | 0, _, _, h => h
  | f + 1, n, s, h => by
    by_cases hb : isBlockNode n = true
    · obtain ⟨ss, sp, rfl⟩ := isBlockNode_eq hb
      simp [blockVisit, run_bind, run_get, run_pure, h]
    · rw [blockVisit_generic cfg opFuel f n (Bool.not_eq_true _ ▸ hb)]
      exact mapM'_canc _ (blockVisit_canc cfg opFuel f) _ _ h

theorem blockVisit_nokids (cfg : Config) (opFuel : Nat) (f : Nat) (n : Node) (s : St)
    (hk : n.kids = []) (hb : isBlockNode n = false) :
    (blockVisit cfg opFuel f n s).1 = n ∧ TS (blockVisit cfg opFuel f n s).2 s := by
  cases f with
  | zero => exact ⟨rfl, outOfFuel_TS s⟩
  | succ f =>
    rw [blockVisit_generic cfg opFuel f n hb]
    show n.withKids (mapM' _ n.kids s).1 = n ∧ TS (mapM' _ n.kids s).2 s
    rw [hk]
    exact ⟨(congrArg n.withKids hk.symm).trans (Node.withKids_kids n), TS.refl s⟩

theorem blockVisit_callee (cfg : Config) (opFuel : Nat) (f : Nat) (nm : Name) (isp : Span) (p : String) (psp msp : Span) (s : St) :
    (blockVisit cfg opFuel f (.member (.ident nm isp) (.pname p psp) msp) s).1 = .member (.ident nm isp) (.pname p psp) msp ∧
    TS (blockVisit cfg opFuel f (.member (.ident nm isp) (.pname p psp) msp) s).2 s := by
  cases f with
  | zero => exact ⟨rfl, outOfFuel_TS s⟩
  | succ f =>
    obtain ⟨a1, t1⟩ := blockVisit_nokids cfg opFuel f (.ident nm isp) s rfl rfl
    obtain ⟨a2, t2⟩ := blockVisit_nokids cfg opFuel f (.pname p psp) (blockVisit cfg opFuel f (.ident nm isp) s).2 rfl rfl
    refine ⟨?_, t2.trans t1⟩
    show Node.member (blockVisit cfg opFuel f (.ident nm isp) s).1
      (blockVisit cfg opFuel f (.pname p psp) (blockVisit cfg opFuel f (.ident nm isp) s).2).1 msp = _
    rw [a1, a2]


def resetProvider (s : St) : St := { s with counter := 0, idents := [], vars := [] }
def cancelSt (reason : String) (s : St) : St := { s with status := .cancelled, msg := some reason }

theorem blockVisit_block (cfg : Config) (opFuel f : Nat) (ss : List Node) (sp : Span) (s : St) (h : s.status ≠ .cancelled) :
    blockVisit cfg opFuel (f + 1) (.block ss sp) s =
      (if variablesContainPossibleDuplicate (mapKidsM mapM' (visit cfg opFuel true) (.block ss sp) (resetProvider s)).2.vars
            (tempPrefix cfg.localVarPrefix) = true
       then ((mapKidsM mapM' (visit cfg opFuel true) (.block ss sp) (resetProvider s)).1,
             cancelSt "Variable name duplicated" (mapKidsM mapM' (visit cfg opFuel true) (.block ss sp) (resetProvider s)).2)
       else mapKidsM mapM' (blockVisit cfg opFuel f)
             (insertVariableDeclaration (mapKidsM mapM' (visit cfg opFuel true) (.block ss sp) (resetProvider s)).2.idents
               (mapKidsM mapM' (visit cfg opFuel true) (.block ss sp) (resetProvider s)).1)
             (mapKidsM mapM' (visit cfg opFuel true) (.block ss sp) (resetProvider s)).2) := by
  simp only [blockVisit, run_bind, run_get]
  have hc : (s.status == Status.cancelled) = false := by
    cases hs : s.status <;> simp_all <;> rfl
  show (ite ((s.status == Status.cancelled) = true) _ _ : M Node) s = _
  rw [if_neg (by simp [hc])]
  simp only [run_bind, run_modify, run_get]
  show (ite (variablesContainPossibleDuplicate _ _ = true) _ _ : M Node) _ = _
  by_cases hd : variablesContainPossibleDuplicate (mapKidsM mapM' (visit cfg opFuel true) (.block ss sp) (resetProvider s)).2.vars
            (tempPrefix cfg.localVarPrefix) = true
  · simp only [resetProvider] at hd ⊢
    simp only [hd, if_true, run_bind, run_pure, cancelVisit, run_modify]
    rfl
  · simp only [resetProvider] at hd ⊢
    simp only [hd, Bool.false_eq_true, if_false]

/-- what the block visitor guarantees when the run is not cancelled -/
def BSpec (ok : String → Bool) (n : Node) (R : Node × St) (s : St) : Prop :=
  StOk R.2 → goodW ok false R.1 = true ∧ ∃ k, Eff s R.2 k ∧ ns R.1 = ns n + k

theorem mapBlock_spec (ok) (g : Node → M Node)
    (hb : ∀ k s, StOk s → goodW ok true k = true → BSpec ok k (g k s) s)
    (hc : ∀ k s, s.status = .cancelled → (g k s).2.status = .cancelled) :
    ∀ (ks : List Node) (s : St), StOk s → goodL ok true ks = true → StOk (mapM' g ks s).2 →
      goodL ok false (mapM' g ks s).1 = true ∧ (mapM' g ks s).1.length = ks.length ∧
      ∃ k, Eff s (mapM' g ks s).2 k ∧ nsL (mapM' g ks s).1 = nsL ks + k := by
  intro ks
  induction ks with
  | nil => intro s _ _ _; exact ⟨rfl, rfl, 0, Eff.refl s, rfl⟩
  | cons x xs ih =>
    intro s hs hg hfin
    simp only [goodL_cons, Bool.and_eq_true] at hg
    simp only [mapM', run_bind, run_pure] at hfin ⊢
    have h1 := hb x s hs hg.1
    generalize hR1 : g x s = R1 at h1 hfin
    obtain ⟨x', s1⟩ := R1
    simp only at hfin ⊢
    have hs1 : StOk s1 := by
      intro hcn
      exact hfin (mapM'_canc g hc xs s1 hcn)
    obtain ⟨g1, k1, e1, c1⟩ := h1 hs1
    simp only at g1 e1 c1
    obtain ⟨g2, l2, k2, e2, c2⟩ := ih s1 hs1 hg.2 hfin
    refine ⟨by simp [g1, g2], by simp [l2], k1 + k2, e1.trans e2, ?_⟩
    simp only [nsL_cons]; omega


theorem letDecl_ns (idents : List Nat) (sp : Span) : ns (letDecl idents sp) = 0 ∧ bad (letDecl idents sp) = 0 := by
  have h1 : ∀ l : List Nat, nsL (l.map fun n => Node.other "VariableDeclarator" sp ["id", "init", "definite"]
      [tempIdent n, .atom "null", .atom "false"]) = 0 := by
    intro l; induction l with
    | nil => rfl
    | cons x xs ih => simp only [tempIdent] at ih ⊢; simp [ih]
  have h2 : ∀ l : List Nat, badL (l.map fun n => Node.other "VariableDeclarator" sp ["id", "init", "definite"]
      [tempIdent n, .atom "null", .atom "false"]) = 0 := by
    intro l; induction l with
    | nil => rfl
    | cons x xs ih => simp only [tempIdent] at ih ⊢; simp [ih]
  simp [letDecl, ns_arr, bad_arr, h1, h2]

theorem insertVar_spec (ok) (idents : List Nat) (ks : List Node) (sp : Span) (hg : goodL ok true ks = true) :
    ∃ ks2, insertVariableDeclaration idents (.block ks sp) = .block ks2 sp ∧ goodL ok true ks2 = true ∧ nsL ks2 = nsL ks := by
  unfold insertVariableDeclaration
  by_cases he : idents.isEmpty = true
  · simp only [he, if_true]; exact ⟨ks, rfl, hg, rfl⟩
  · simp only [he, Bool.false_eq_true, if_false]
    refine ⟨_, rfl, ?_, ?_⟩
    · obtain ⟨g1, g2⟩ := goodL_take_drop ok true ks (variableInsertionIndex ks) hg
      have := good_of_ns0 ok true (letDecl idents sp) (letDecl_ns idents sp).1 (letDecl_ns idents sp).2
      simp [insertAt, g1, g2, this]
    · have := nsL_take_drop ks (variableInsertionIndex ks)
      simp only [insertAt, nsL_append, nsL_cons, nsL_nil, (letDecl_ns idents sp).1]
      omega

theorem blockVisit_spec (ok) (cfg : Config) (hcfg : CfgOk ok cfg) (opFuel : Nat) : ∀ (f : Nat) (n : Node) (s : St),
    StOk s → goodW ok true n = true → BSpec ok n (blockVisit cfg opFuel f n s) s := by
  intro f
  induction f with
  | zero =>
    intro n s hs hg _
    simp only [blockVisit, run_bind, run_pure]
    exact ⟨good_true_false ok n hg, 0, Eff.of_TS (outOfFuel_TS s), rfl⟩
  | succ f ih =>
    intro n s hs hg
    have hlist := mapBlock_spec ok (blockVisit cfg opFuel f) (fun k s hs hg => ih k s hs hg)
      (fun k s h => blockVisit_canc cfg opFuel f k s h)
    by_cases hb : isBlockNode n = true
    · obtain ⟨ss, sp, rfl⟩ := isBlockNode_eq hb
      rw [good_block] at hg
      simp only [if_true, Bool.and_eq_true, beq_iff_eq] at hg
      rw [blockVisit_block cfg opFuel f ss sp s hs]
      have hs0 : StOk (resetProvider s) := hs
      have t0 : TS (resetProvider s) s := ⟨rfl, rfl, id⟩
      obtain ⟨ks', h1, hl, g, e, p⟩ := mapKids_spec' ok (visit cfg opFuel true)
        (fun k s h0 ht hs => visit_spec ok cfg hcfg opFuel true k s h0 ht hs) (.block ss sp) (resetProvider s)
        (by simp [hg.1]) ((bad_zero_iff _).mp (by simp [hg.2])) hs0
      generalize mapKidsM mapM' (visit cfg opFuel true) (.block ss sp) (resetProvider s) = K at h1 e
      obtain ⟨n1, s1⟩ := K
      simp only [withKids] at h1 e ⊢
      subst h1
      by_cases hd : variablesContainPossibleDuplicate s1.vars (tempPrefix cfg.localVarPrefix) = true
      · simp only [hd, if_true]
        intro hfin
        exact absurd rfl hfin
      · simp only [hd, Bool.false_eq_true, if_false]
        obtain ⟨ks2, hins, g2, n2⟩ := insertVar_spec ok s1.idents ks' sp g
        rw [hins]
        simp only [mapKidsM, kids, run_bind, run_pure, withKids]
        intro hfin
        have e01 : Eff s s1 (nsL ks') := ((Eff.of_TS t0).trans e).cast (by omega)
        obtain ⟨g3, l3, k3, e3, c3⟩ := hlist ks2 s1 (e01.stOk hs) g2 hfin
        refine ⟨by rw [good_block]; simpa using g3, nsL ks' + k3, e01.trans e3, ?_⟩
        simp only [ns_block]
        omega
    · simp only [Bool.not_eq_true] at hb
      rw [blockVisit_generic cfg opFuel f n hb]
      rw [goodW_eq] at hg
      simp only [hb, Bool.and_false, Bool.false_eq_true, if_false] at hg
      cases hh : hookName? n with
      | none =>
        rw [hh] at hg
        simp only [Bool.and_eq_true, Bool.not_eq_true'] at hg
        simp only [mapKidsM, run_bind, run_pure]
        intro hfin
        obtain ⟨g3, l3, k3, e3, c3⟩ := hlist n.kids s hs hg.2 hfin
        refine ⟨good_withKids ok false n _ hg.1 (.inl rfl) g3 l3, k3, e3, ?_⟩
        rw [ns_withKids n _ l3, ns_eq n]; omega
      | some nm =>
        obtain ⟨x, isp, psp, msp, args, sp, rfl, hx⟩ := hookName?_some hh
        rw [hh] at hg
        simp only [kids, List.drop_succ_cons, List.drop_zero, Bool.and_eq_true] at hg
        simp only [mapKidsM, kids, mapM', run_bind, run_pure]
        have hc := blockVisit_callee cfg opFuel f (.user x) isp nm psp msp s
        generalize blockVisit cfg opFuel f (.member (.ident (.user x) isp) (.pname nm psp) msp) s = RC at hc
        obtain ⟨c', s1⟩ := RC
        obtain ⟨hc1, t1⟩ := hc
        simp only at hc1 t1 ⊢
        subst hc1
        intro hfin
        have e1 : Eff s s1 0 := Eff.of_TS t1
        obtain ⟨g3, l3, k3, e3, c3⟩ := hlist args s1 (e1.stOk hs) hg.2 hfin
        simp only [withKids, List.getD_cons_zero, List.drop_succ_cons, List.drop_zero]
        refine ⟨?_, k3, (e1.trans e3).cast (by omega), ?_⟩
        · rw [goodW_eq]
          simp [isBlockNode, hookName?, hx, kids, hg.1, g3]
        · simp only [ns_call]; omega

end IastModel
