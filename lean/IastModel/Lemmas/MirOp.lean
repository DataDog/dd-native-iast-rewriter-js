import IastModel.Lemmas.TrSpec
import IastModel.Spec.ArgsMirror
namespace IastModel
open Node

def kindOf (spread : Option Span) : IdentKind := if spread.isSome then .spread else .expr

/-- a `+` chain that is not made of literals only: left in place, not passed on -/
def nlSum (e : Node) : Bool := isPlusSum e && !isLiteralSum e

def pushOf (e : Node) (k : IdentKind) : List Node := if nlSum e then [] else [exprOrSpread e k]

def pushOfElem : Node → List Node
  | .arg sp e => pushOf e (kindOf sp)
  | _ => [.arg none voidZero]

def isArrayNode : Node → Bool
  | .array .. => true
  | _ => false

def pushOfX (e : Node) (k : IdentKind) (expand : Bool) : List Node :=
  match e, expand with
  | .array els _, true => (els.map pushOfElem).flatten
  | _, _ => pushOf e k

def pushOfArgX (expand : Bool) : Node → List Node
  | .arg sp e => pushOfX e (kindOf sp) expand
  | _ => []

/-- what the handler without array expansion leaves in the operand position: a sum of literals (a literal is one),
    an identifier, or a `+` chain that is not made of literals only -/
def OpOut (e : Node) : Prop := isLiteralSum e = true ∨ e.isIdent = true ∨ nlSum e = true

theorem OpOut.notArray {e : Node} (h : OpOut e) : isArrayNode e = false := by
  unfold isArrayNode; split
  · rcases h with h | h | h <;> cases h
  · rfl

theorem OpOut.notArg {e : Node} (h : OpOut e) : isArgNode e = false := by
  unfold isArgNode; split
  · rcases h with h | h | h <;> cases h
  · rfl

theorem pushOf_keep {e : Node} (args : List Node) (k : IdentKind) (h : isLiteralSum e = true ∨ e.isIdent = true) :
    args ++ [exprOrSpread e k] = args ++ pushOf e k ∧ OpOut e := by
  have : nlSum e = false := by
    rcases h with h | h
    · rw [nlSum, h, Bool.not_true, Bool.and_false]
    · cases e <;> first | rfl | cases h
  rw [pushOf, this]
  exact ⟨rfl, h.elim Or.inl fun h => Or.inr (Or.inl h)⟩

/-- the result of `replace_default` is the operand itself (a literal) or a fresh temporary, and that is
    what is pushed -/
theorem replaceDefault_push (e : Node) (asg args : List Node) (sp : Span) (k : IdentKind) (s : St) :
    (replaceDefault e asg args sp k s).1.2.2 = args ++ [exprOrSpread (replaceDefault e asg args sp k s).1.1 k] ∧
    (((replaceDefault e asg args sp k s).1.1 = e ∧ e.isLit = true) ∨ ∃ n, (replaceDefault e asg args sp k s).1.1 = tempIdent n) := by
  unfold replaceDefault
  simp only [run_bind, run_pure]
  rcases getIdentUsed_cases e asg args sp k s with ⟨hl, h⟩ | ⟨hl, n, s', h, _⟩
  · rw [h]; exact ⟨rfl, Or.inl ⟨rfl, hl⟩⟩
  · rw [h]; exact ⟨rfl, Or.inr ⟨n, rfl⟩⟩

theorem replaceDefault_pushOf (e : Node) (asg args : List Node) (sp : Span) (k : IdentKind) (s : St) :
    (replaceDefault e asg args sp k s).1.2.2 = args ++ pushOf (replaceDefault e asg args sp k s).1.1 k ∧
    OpOut (replaceDefault e asg args sp k s).1.1 := by
  obtain ⟨h1, h2⟩ := replaceDefault_push e asg args sp k s
  rw [h1]
  rcases h2 with ⟨h2, hl⟩ | ⟨n, h2⟩ <;> rw [h2]
  · exact pushOf_keep args k (Or.inl (by cases e <;> first | rfl | cases hl))
  · exact pushOf_keep args k (Or.inr rfl)

theorem replaceExprNoExpand_push (e : Node) (mode : IdentMode) (asg args : List Node) (sp : Span) (k : IdentKind) (s : St) :
    (replaceExprNoExpand e mode asg args sp k s).1.2.2 = args ++ pushOf (replaceExprNoExpand e mode asg args sp k s).1.1 k ∧
    OpOut (replaceExprNoExpand e mode asg args sp k s).1.1 := by
  unfold replaceExprNoExpand
  split
  · exact pushOf_keep args k (Or.inl rfl)
  · split
    · exact replaceDefault_pushOf ..
    · exact pushOf_keep args k (Or.inr rfl)
  · rename_i op l r bsp
    by_cases hop : (op != "+") = true
    · rw [if_pos hop]; exact replaceDefault_pushOf ..
    rw [if_neg hop]
    by_cases hls : isLiteralSum (.bin op l r bsp) = true
    · rw [if_pos hls]; exact pushOf_keep args k (Or.inl hls)
    rw [if_neg hls]
    have hop' : op = "+" := by simpa using hop
    subst hop'
    have hn : nlSum (.bin "+" l r bsp) = true := by rw [nlSum, Bool.not_eq_true _ |>.mp hls]; rfl
    refine ⟨?_, Or.inr (Or.inr hn)⟩
    show args = args ++ pushOf (.bin "+" l r bsp) k
    rw [pushOf, hn, if_pos rfl, List.append_nil]
  · exact replaceDefault_pushOf ..

theorem pushOfX_notArray {e : Node} {k : IdentKind} {expand : Bool} (h : isArrayNode e = false) :
    pushOfX e k expand = pushOf e k := by
  unfold pushOfX; split
  · cases h
  · rfl

theorem replaceElem_push (a : Node) (mode : IdentMode) (asg args : List Node) (sp : Span) (s : St) :
    (replaceElem a mode asg args sp s).1.2.2 = args ++ pushOfElem (replaceElem a mode asg args sp s).1.1 := by
  cases a with
  | arg spread e =>
    simp only [replaceElem, replaceArgNoExpand, run_bind, run_pure]
    exact (replaceExprNoExpand_push e mode asg args sp (if spread.isSome = true then IdentKind.spread else IdentKind.expr) s).1
  | _ => simp [replaceElem, run_pure, pushOfElem]

theorem push_cons {F : Node → List Node} {args a1 a2 : List Node} {x : Node} {xs : List Node}
    (h1 : a1 = args ++ F x) (h2 : a2 = a1 ++ (xs.map F).flatten) : a2 = args ++ ((x :: xs).map F).flatten := by
  rw [h2, h1, List.append_assoc]; rfl

theorem replaceElems_push (mode : IdentMode) (sp : Span) : ∀ (xs asg args : List Node) (s : St),
    (replaceElems mode sp xs asg args s).1.2.2 = args ++ ((replaceElems mode sp xs asg args s).1.1.map pushOfElem).flatten
  | [], _, args, _ => (List.append_nil args).symm
  | x :: xs, asg, args, s => by
    simp only [replaceElems, run_bind, run_pure]
    exact push_cons (replaceElem_push x mode asg args sp s) (replaceElems_push mode sp xs _ _ _)

theorem replaceExpr_push (e : Node) (mode : IdentMode) (asg args : List Node) (sp : Span) (k : IdentKind) (expand : Bool) (s : St) :
    (replaceExpr e mode asg args sp k expand s).1.2.2 = args ++ pushOfX (replaceExpr e mode asg args sp k expand s).1.1 k expand := by
  unfold replaceExpr
  split
  · rename_i elems asp
    simp only [run_bind, run_pure]
    rw [replaceElems_push]
    rfl
  · rename_i hne
    obtain ⟨h1, h2⟩ := replaceExprNoExpand_push e mode asg args sp k s
    rw [h1, pushOfX_notArray h2.notArray]

theorem replaceArg_push (a : Node) (mode : IdentMode) (asg args : List Node) (sp : Span) (expand : Bool) (s : St) :
    (replaceArg a mode asg args sp expand s).1.2.2 = args ++ pushOfArgX expand (replaceArg a mode asg args sp expand s).1.1 := by
  cases a with
  | arg spread e =>
    simp only [replaceArg, run_bind, run_pure]
    exact replaceExpr_push e mode asg args sp _ expand s
  | _ => simp [replaceArg, run_pure, pushOfArgX]

theorem replaceArgs_push (mode : IdentMode) (sp : Span) (expand : Bool) : ∀ (xs asg args : List Node) (s : St),
    (replaceArgs mode sp expand xs asg args s).1.2.2 = args ++ ((replaceArgs mode sp expand xs asg args s).1.1.map (pushOfArgX expand)).flatten
  | [], _, args, _ => (List.append_nil args).symm
  | x :: xs, asg, args, s => by
    simp only [replaceArgs, run_bind, run_pure]
    exact push_cons (replaceArg_push x mode asg args sp expand s) (replaceArgs_push mode sp expand xs _ _ _)

theorem pushOfX_false (e : Node) (k : IdentKind) : pushOfX e k false = pushOf e k := by cases e <;> rfl

theorem replaceTplExprs_push : ∀ (xs asg args : List Node) (s : St),
    (replaceTplExprs xs asg args s).1.2.2 = args ++ ((replaceTplExprs xs asg args s).1.1.map (fun e => pushOf e .expr)).flatten
  | [], _, args, _ => (List.append_nil args).symm
  | x :: xs, asg, args, s => by
    simp only [replaceTplExprs, run_bind, run_pure]
    exact push_cons (F := fun e => pushOf e .expr)
      (pushOfX_false _ _ ▸ replaceExpr_push (tplOperand x) .replace asg args x.span .expr false s) (replaceTplExprs_push xs _ _ _)

end IastModel
