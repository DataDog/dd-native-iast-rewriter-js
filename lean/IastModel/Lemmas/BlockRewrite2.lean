import IastModel.Lemmas.BlockRewrite
namespace IastModel
open Node

theorem mapM'_BRL (g : Node → M Node) (hg : ∀ k s, BR k (g k s).1) : ∀ (ks : List Node) (s : St), BRL ks (mapM' g ks s).1 := by
  intro ks
  induction ks with
  | nil => intro s; exact BRL.nil
  | cons k ks ih =>
    intro s
    simp only [mapM', run_bind, run_pure]
    exact BRL.cons (hg k s) (ih _)

/-- the block visitor only ever replaces block statements -/
theorem blockVisit_BR (cfg : Config) (opFuel : Nat) : ∀ (f : Nat) (n : Node) (s : St), BR n (blockVisit cfg opFuel f n s).1 := by
  intro f
  induction f with
  | zero => intro n s; simp only [blockVisit, run_bind, run_pure]; exact BR.refl n
  | succ f ih =>
    intro n s
    by_cases hb : isBlockNode n = true
    · cases n with
      | block ss sp =>
        obtain ⟨ss', h'⟩ := blockVisit_isBlock cfg opFuel (f + 1) ss sp s
        rw [h']; exact BR.blk _ _ _
      | _ => simp [isBlockNode] at hb
    · simp only [Bool.not_eq_true] at hb
      rw [blockVisit_generic cfg opFuel f n hb]
      simp only [mapKidsM, run_bind, run_pure]
      exact BR.node' hb (mapM'_BRL _ ih _ _)

def noBlk (n : Node) : Bool := Node.all (fun k => !isBlockNode k) n
def noBlkL (l : List Node) : Bool := l.all noBlk

theorem noBlk_eq (n : Node) : noBlk n = (!isBlockNode n && noBlkL n.kids) := by
  unfold noBlk noBlkL; rw [Node.all_eq]; rfl

@[simp] theorem noBlkL_nil : noBlkL [] = true := rfl
@[simp] theorem noBlkL_cons (x : Node) (xs : List Node) : noBlkL (x :: xs) = (noBlk x && noBlkL xs) := by simp [noBlkL]
@[simp] theorem noBlkL_append (xs ys : List Node) : noBlkL (xs ++ ys) = (noBlkL xs && noBlkL ys) := by simp [noBlkL]

theorem BR_noBlk : ∀ a : Node, noBlk a = true → ∀ b, BR a b → b = a := by
  apply Node.ind
  intro a ih ha b hb
  rw [noBlk_eq] at ha
  simp only [Bool.and_eq_true, Bool.not_eq_true'] at ha
  obtain ⟨ks', rfl, hk⟩ := hb.inv ha.1
  have : ks' = a.kids := by
    apply List.ext_getElem hk.1.symm
    intro i h1 h2
    have hm : a.kids[i] ∈ a.kids := List.getElem_mem h2
    have hn : noBlk a.kids[i] = true := by
      have := ha.2; unfold noBlkL at this; rw [List.all_eq_true] at this; exact this _ hm
    exact ih _ hm hn _ (hk.2 i h2 h1)
  rw [this, Node.withKids_kids]

theorem BRL_noBlk {xs ys : List Node} (h : noBlkL xs = true) (hb : BRL xs ys) : ys = xs := by
  apply List.ext_getElem hb.1.symm
  intro i h1 h2
  have hm : xs[i] ∈ xs := List.getElem_mem h2
  have hn : noBlk xs[i] = true := by
    unfold noBlkL at h; rw [List.all_eq_true] at h; exact h _ hm
  exact BR_noBlk _ hn _ (hb.2 i h2 h1)

theorem isBlockNode_of_ctorIdx {a b : Node} (h : a.ctorIdx = b.ctorIdx) : isBlockNode b = isBlockNode a := by
  have e : ∀ n : Node, isBlockNode n = (n.ctorIdx == (Node.block [] Span.dummy).ctorIdx) := fun n => by cases n <;> rfl
  rw [e, e, h]

/-- equality up to positions relates trees without blocks to trees without blocks -/
theorem eqNS_noBlk : ∀ a b : Node, eqNS a b = true → noBlk a = true → noBlk b = true := by
  apply Node.ind
  intro a ih b h hn
  obtain ⟨hc, hk⟩ := eqNS_kids h
  rw [noBlk_eq, Bool.and_eq_true] at hn ⊢
  exact ⟨by rw [isBlockNode_of_ctorIdx hc]; exact hn.1, eqNSL_all hk ih hn.2⟩
