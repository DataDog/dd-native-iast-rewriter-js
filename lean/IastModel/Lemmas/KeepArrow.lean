import IastModel.Lemmas.CovProgram
/-
  Arrow functions written without braces.  `x => e` is not a block statement of the source; the
  operation visitor turns its body into `{ return e }` when it reaches the arrow, and the block visitor
  then enters that block.  `va cfg A n` counts the occurrences of the arrow `A` at the positions of `n`
  the operation visitor reaches (`visitedKids`: not under `delete`, not inside a template that has a
  literal substitution, not inside an optional chain that is lowered, not inside a nested block or another arrow).
  `visit_KA`: unless the visitor runs out of fuel, such an arrow comes back with its body wrapped, i.e.
  the block `pseudo A` occurs in the result.
-/
namespace IastModel
open Node

/-- arrow function whose body is an expression -/
def isExprArrow : Node → Bool
  | .arrow _ body _ _ => !isBlockNode body
  | _ => false

/-- the block an expression-bodied arrow function's body becomes -/
def pseudo : Node → Node
  | .arrow _ body _ _ => .block [returnStmt body] Span.dummy
  | n => n

def va (cfg : Config) (A : Node) (n : Node) : Nat :=
  (if isExprArrow n && Node.beq n A then 1 else 0) + ((visitedKids cfg n).attach.map fun x => va cfg A x.1).sum
termination_by sizeOf n
decreasing_by exact Node.sizeOf_lt_of_mem_kids (visitedKids_sub cfg n x.1 x.2)

def vaL (cfg : Config) (A : Node) (l : List Node) : Nat := (l.map (va cfg A)).sum

theorem va_eq (cfg : Config) (A : Node) (n : Node) :
    va cfg A n = (if isExprArrow n && Node.beq n A then 1 else 0) + vaL cfg A (visitedKids cfg n) := by
  rw [va, Node.attach_map_eq]; rfl

@[simp] theorem vaL_nil (cfg A) : vaL cfg A [] = 0 := rfl
@[simp] theorem vaL_cons (cfg A) (x : Node) (xs : List Node) : vaL cfg A (x :: xs) = va cfg A x + vaL cfg A xs := by simp [vaL]

/-- a node that is not an arrow function: only its visited children count -/
theorem va_notArrow (cfg : Config) (A n : Node) (h : isExprArrow n = false) : va cfg A n = vaL cfg A (visitedKids cfg n) := by
  rw [va_eq, h]; simp

theorem cb_pseudo_toDdArrow (ps : List Node) (b : Node) (at' : String) (sp : Span) (h : isBlockNode b = false) :
    1 ≤ cb (pseudo (.arrow ps b at' sp)) ((toDdArrow (.arrow ps b at' sp)).getD (.arrow ps b at' sp)) := by
  have : toDdArrow (.arrow ps b at' sp) = some (.arrow ps (.block [returnStmt b] Span.dummy) at' sp) := by
    cases b <;> first | rfl | simp [isBlockNode] at h
  rw [this]
  simp only [Option.getD_some, pseudo, cb_arrow, cb_block, beq_self, if_true]
  omega

/-- a reached occurrence of the arrow function `A` in `n` comes back in `n'` with its body wrapped -/
def KA (cfg : Config) (A n n' : Node) : Prop := 1 ≤ va cfg A n → 1 ≤ cb (pseudo A) n'

theorem KA.list {cfg : Config} {A : Node} {ks ks' : List Node} (h : Forall2 (KA cfg A) ks ks') (hp : 1 ≤ vaL cfg A ks) :
    1 ≤ cbL (pseudo A) ks' :=
  Forall2.sum_pos (fun _ _ h => h) h hp

/-- `n` is not the arrow; its reached children are `ks`, and `ks'`, what they have become, all occur in `n'` -/
theorem KA.of_kids {cfg : Config} {A n n' : Node} {ks ks' : List Node} (ha : isExprArrow n = false)
    (hv : visitedKids cfg n = ks) (hk : Forall2 (KA cfg A) ks ks') (hcb : cbL (pseudo A) ks' ≤ cb (pseudo A) n') :
    KA cfg A n n' := fun h =>
  Nat.le_trans (KA.list hk (by rwa [va_notArrow cfg A n ha, hv] at h)) hcb

/-- nothing below `n` is reached -/
theorem KA.none {cfg : Config} {A n n' : Node} (ha : isExprArrow n = false) (hv : visitedKids cfg n = []) : KA cfg A n n' :=
  KA.of_kids (ks' := []) ha hv trivial (Nat.zero_le _)

theorem cbL_kids_le (B n : Node) : cbL B n.kids ≤ cb B n := by
  rw [cb_eq B n]; exact Nat.le_add_left _ _

theorem KA.rebuilt {cfg : Config} {A n : Node} {ks' : List Node} (h : rebuilt cfg n = true)
    (hk : Forall2 (KA cfg A) n.kids ks') : KA cfg A n (n.withKids ks') := by
  have ha : isExprArrow n = false := by
    unfold isExprArrow
    split
    · cases h
    · rfl
  have := cbL_kids_le (pseudo A) (n.withKids ks')
  rw [Node.kids_withKids n ks' (Forall2.length_eq hk).symm] at this
  exact KA.of_kids ha (visitedKids_rebuilt h) hk this

/-- **a reached arrow function comes back with its body wrapped in a block** -/
theorem visit_KA (A : Node) (cfg : Config) (ok : String → Bool) (hcfg : CfgOk ok cfg) :
    ∀ (f : Nat) (root : Bool) (n : Node) (s : St), ns n = 0 → targetsOk n = true → StOk s →
      (visit cfg f root n s).2.fuelOut = false → 1 ≤ va cfg A n →
      1 ≤ cb (pseudo A) (visit cfg f root n s).1 :=
  visit_ind cfg ok hcfg (P := KA cfg A)
    (fun _ _ => KA.none rfl rfl)
    (fun _ _ => KA.none rfl rfl)
    (fun ps b at' sp hpos => by
      rw [va_eq] at hpos
      by_cases hc : (isExprArrow (.arrow ps b at' sp) && Node.beq (.arrow ps b at' sp) A) = true
      · simp only [Bool.and_eq_true] at hc
        cases beq_eq _ _ hc.2
        exact cb_pseudo_toDdArrow ps b at' sp (by simpa [isExprArrow] using hc.1)
      · rw [if_neg hc] at hpos; exact absurd hpos (Nat.not_succ_le_zero 0))
    (fun op a sp hd => KA.none rfl (by rw [visitedKids, if_pos hd]))
    (fun es qs sp hte hc => KA.none rfl (by rw [visitedKids, hte, hc]; rfl))
    (fun _ _ => KA.rebuilt)
    (fun l r sp l' r' s _ hl hr => KA.of_kids (ks := [l, r]) (ks' := [l', r']) rfl rfl ⟨hl, hr, trivial⟩ (by
      cases hres : (toDdBinary cfg (.bin "+" l' r' sp) s).1 with
      | none => exact cbL_kids_le _ (.bin "+" l' r' sp)
      | some e' =>
        have := (toDdBinary_K (pseudo A) cfg "+" l' r' sp s e' hres).1
        rw [cbL_cons, cbL_cons, cbL_nil, Nat.add_zero]; exact this))
    (fun l r sp l' r' s _ _ hl hr => KA.of_kids (ks := [l, r]) (ks' := [l', r']) rfl rfl ⟨hl, hr, trivial⟩ (by
      have h0 := cbL_kids_le (pseudo A) (.assign "+=" l' r' sp)
      cases hres : (toDdAssign cfg (.assign "+=" l' r' sp) s).1 with
      | none => exact h0
      | some e' => exact Nat.le_trans h0 (toDdAssign_K (pseudo A) cfg "+=" l' r' sp s e' hres).1))
    (fun es qs sp ks' s hte hc hk => KA.of_kids rfl (by rw [visitedKids, hte, hc]; rfl) hk (by
      have h0 := cbL_kids_le (pseudo A) ((Node.tpl es qs sp).withKids ks')
      rw [Node.kids_withKids (.tpl es qs sp) ks' (Forall2.length_eq hk).symm] at h0
      cases hres : (toDdTpl cfg (.tpl (ks'.take es.length) (ks'.drop es.length) sp) s).1 with
      | none => exact h0
      | some e' => exact Nat.le_trans h0 (toDdTpl_K (pseudo A) cfg _ _ sp s e' hres).1))
    (fun c as sp c' as' s hc has _ _ _ => KA.of_kids (ks := c :: as) (ks' := c' :: as') rfl rfl ⟨hc, has⟩
      (cbL_kids_le _ (.call c' as' sp)))
    (fun c as sp c' as' s e tag hc has _ _ he => KA.of_kids (ks := c :: as) (ks' := c' :: as') rfl rfl ⟨hc, has⟩
      (by rw [cbL_cons]; exact (toDdCall_K (pseudo A) cfg c' as' sp s e tag he).1))
    (fun o b sp f0 s ks' hk => by
      by_cases hno : noOpt cfg (.optChain o b sp) = true
      · rw [(toDdCond_id cfg f0 (.optChain o b sp) s hno).1] at hk ⊢
        have h0 := cbL_kids_le (pseudo A) ((Node.optChain o b sp).withKids ks')
        rw [Node.kids_withKids (.optChain o b sp) ks' (Forall2.length_eq hk).symm] at h0
        exact KA.of_kids rfl (by rw [visitedKids, if_pos hno]; rfl) hk h0
      · exact KA.none rfl (by rw [visitedKids, if_neg hno]))


/-- standing on a block one of whose statements holds the arrow function `A` at a reached position:
    whatever standing on the wrapped body of `A` guarantees (`hselfA`) is delivered, because the nested
    traversal finds that block among the visited statements -/
theorem block_arrow_cover_gen (ok) (cfg : Config) (hcfg : CfgOk ok cfg) (d : String) (sp0 : Span) (A : Node) (opFuel : Nat) (c : Nat)
    (hselfA : ∀ (f : Nat) (ss : List Node) (sp : Span) (s : St), StOk s → goodW ok true (.block ss sp) = true →
      StOk (blockVisit cfg opFuel (f + 1) (.block ss sp) s).2 → (blockVisit cfg opFuel (f + 1) (.block ss sp) s).2.fuelOut = false →
      Node.block ss sp = pseudo A → c ≤ cq (qAt d sp0) (blockVisit cfg opFuel (f + 1) (.block ss sp) s).1)
    (f : Nat) (ss : List Node) (sp : Span) (s : St) (hs : StOk s) (hg : goodW ok true (.block ss sp) = true)
    (hfin : StOk (blockVisit cfg opFuel (f + 1) (.block ss sp) s).2)
    (hfo : (blockVisit cfg opFuel (f + 1) (.block ss sp) s).2.fuelOut = false)
    (hpos : 1 ≤ vaL cfg A ss) :
    c ≤ cq (qAt d sp0) (blockVisit cfg opFuel (f + 1) (.block ss sp) s).1 := by
  obtain ⟨h0, htk, ks1, s1, ks2, hK, hfo1, hs1, hins, g2, heq⟩ :=
    blockVisit_block_run ok cfg hcfg opFuel f ss sp s hs hg hfin hfo
  rw [heq] at hfin hfo ⊢
  -- the arrow is wrapped when its statement is visited, and the `let` goes in front of the statements
  have hk1 := KA.list (mapVisit_forall2 cfg ok hcfg opFuel true (visit_KA A cfg ok hcfg opFuel true) ss (resetProvider s)
    h0 htk hs (by rw [hK]; exact hfo1)) hpos
  rw [hK] at hk1
  obtain ⟨_, hins', e2⟩ := insertVar_cb (pseudo A) s1.idents ks1 sp
  cases hins.symm.trans hins'
  rw [cq_block]
  exact mapReach (qAt d sp0) ok (pseudo A) c (blockVisit cfg opFuel f)
    (fun k s hs hg hf hfo hp => blockVisit_reach_gen ok cfg hcfg d sp0 (pseudo A) opFuel c hselfA f k s hs hg hf hfo hp)
    (fun k s hs hg => blockVisit_spec ok cfg hcfg opFuel f k s hs hg)
    (fun k s h => blockVisit_canc cfg opFuel f k s h) ks2 s1 hs1 g2 hfin hfo (by rw [e2]; exact hk1)

/-- the block visitor standing on a block one of whose statements holds the arrow function `A` at a
    position the operation visitor reaches: the body of `A`, wrapped, is entered by the nested traversal -/
theorem block_arrow_cover (ok) (cfg : Config) (hcfg : CfgOk ok cfg) (d : String) (sp0 : Span) (A : Node) (opFuel f : Nat)
    (ss : List Node) (sp : Span) (s : St) (hs : StOk s) (hg : goodW ok true (.block ss sp) = true)
    (hfin : StOk (blockVisit cfg opFuel (f + 1) (.block ss sp) s).2)
    (hfo : (blockVisit cfg opFuel (f + 1) (.block ss sp) s).2.fuelOut = false)
    (hpos : 1 ≤ vaL cfg A ss) :
    RL cfg d sp0 (stmtsOf (pseudo A)) ≤ cq (qAt d sp0) (blockVisit cfg opFuel (f + 1) (.block ss sp) s).1 :=
  block_arrow_cover_gen ok cfg hcfg d sp0 A opFuel _ (fun f ss sp s hs hg hfin hfo hB => by
    rw [← hB]
    exact block_cover ok cfg hcfg d sp0 opFuel f ss sp s hs hg hfin hfo) f ss sp s hs hg hfin hfo hpos

/-- what standing on the block `B` guarantees for the site: what its own statements require, and — through
    any chain of arrow functions written without braces, each reached from the statements of the one
    before (`xs.map(x => x.ys.map(y => y + z))`) — what their bodies require -/
inductive EnteredVia (cfg : Config) (d : String) (sp0 : Span) : Node → Nat → Prop
  | self (B : Node) : EnteredVia cfg d sp0 B (RL cfg d sp0 (stmtsOf B))
  | arrow (B1 A : Node) (c : Nat) : 1 ≤ vaL cfg A (stmtsOf B1) → EnteredVia cfg d sp0 (pseudo A) c → EnteredVia cfg d sp0 B1 c

theorem EnteredVia.cover (ok) (cfg : Config) (hcfg : CfgOk ok cfg) (d : String) (sp0 : Span) (opFuel : Nat)
    {B : Node} {c : Nat} (h : EnteredVia cfg d sp0 B c) :
    ∀ (f : Nat) (ss : List Node) (sp : Span) (s : St), StOk s → goodW ok true (.block ss sp) = true →
      StOk (blockVisit cfg opFuel (f + 1) (.block ss sp) s).2 → (blockVisit cfg opFuel (f + 1) (.block ss sp) s).2.fuelOut = false →
      Node.block ss sp = B → c ≤ cq (qAt d sp0) (blockVisit cfg opFuel (f + 1) (.block ss sp) s).1 := by
  induction h with
  | self B =>
    intro f ss sp s hs hg hfin hfo hB
    rw [← hB]
    exact block_cover ok cfg hcfg d sp0 opFuel f ss sp s hs hg hfin hfo
  | arrow B1 A c hA _ ih =>
    intro f ss sp s hs hg hfin hfo hB
    subst hB
    exact block_arrow_cover_gen ok cfg hcfg d sp0 A opFuel c ih f ss sp s hs hg hfin hfo hA

/-- whatever node the block visitor is started on: a block statement occurring in it delivers what
    standing on it guarantees -/
theorem blockVisit_reach_via (ok) (cfg : Config) (hcfg : CfgOk ok cfg) (d : String) (sp0 : Span) (B : Node) (opFuel : Nat) (c : Nat)
    (h : EnteredVia cfg d sp0 B c) :
    ∀ (f : Nat) (n : Node) (s : St), StOk s → goodW ok true n = true → StOk (blockVisit cfg opFuel f n s).2 →
      (blockVisit cfg opFuel f n s).2.fuelOut = false → 1 ≤ cb B n →
      c ≤ cq (qAt d sp0) (blockVisit cfg opFuel f n s).1 :=
  blockVisit_reach_gen ok cfg hcfg d sp0 B opFuel c (h.cover ok cfg hcfg d sp0 opFuel)

/-- **every reached arrow function of every block statement is entered**: for the block `B1` anywhere in
    the tree and the arrow function `A` at a reached position of one of its statements -/
theorem blockVisit_reach_arrow (ok) (cfg : Config) (hcfg : CfgOk ok cfg) (d : String) (sp0 : Span) (B1 A : Node) (opFuel : Nat)
    (hA : 1 ≤ vaL cfg A (stmtsOf B1)) :
    ∀ (f : Nat) (n : Node) (s : St), StOk s → goodW ok true n = true → StOk (blockVisit cfg opFuel f n s).2 →
      (blockVisit cfg opFuel f n s).2.fuelOut = false → 1 ≤ cb B1 n →
      RL cfg d sp0 (stmtsOf (pseudo A)) ≤ cq (qAt d sp0) (blockVisit cfg opFuel f n s).1 :=
  blockVisit_reach_gen ok cfg hcfg d sp0 B1 opFuel _ (fun f ss sp s hs hg hfin hfo hB => by
    subst hB
    exact block_arrow_cover ok cfg hcfg d sp0 A opFuel f ss sp s hs hg hfin hfo hA)

end IastModel
