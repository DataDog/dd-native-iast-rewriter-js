import IastModel.Lemmas.TempsOc
namespace IastModel
open Node

def VT (n : Node) (R : Node × St) (s : St) : Prop := tgood R.2.idents R.1 = true ∧ IdSub s R.2

theorem updateStatus_idents (st : Status) (tag : Option String) (s : St) : (updateStatus st tag s).2.idents = s.idents := by
  simp only [updateStatus, run_modify]
  split
  · rfl
  · split <;> split <;> rfl

theorem IdSub.updateStatus {s s' : St} (h : IdSub s s') (st : Status) (tag : Option String) :
    IdSub s (updateStatus st tag s').2 := fun k hk => by rw [updateStatus_idents]; exact h k hk

theorem mapVisit_T (v : Node → M Node) (hv : ∀ k s, tgood s.idents k = true → VT k (v k s) s) :
    ∀ (ks : List Node) (s : St), tgoodL s.idents ks = true →
      tgoodL (mapM' v ks s).2.idents (mapM' v ks s).1 = true ∧ IdSub s (mapM' v ks s).2 ∧
      (mapM' v ks s).1.length = ks.length := by
  intro ks
  induction ks with
  | nil => intro s _; exact ⟨rfl, IdSub.refl s, rfl⟩
  | cons k ks ih =>
    intro s h
    rw [tgoodL_cons, Bool.and_eq_true] at h
    simp only [mapM', run_bind, run_pure]
    obtain ⟨g1, i1⟩ := hv k s h.1
    obtain ⟨g2, i2, l2⟩ := ih _ (tgoodL_lift i1 h.2)
    exact ⟨by rw [tgoodL_cons, tgood_lift i2 g1, g2]; rfl, IdSub.trans i1 i2, by rw [List.length_cons, l2]; rfl⟩

theorem mapKids_T (v : Node → M Node) (hv : ∀ k s, tgood s.idents k = true → VT k (v k s) s) (n : Node) (s : St)
    (hb : isClosed n = false) (h : tgood s.idents n = true) : VT n (mapKidsM mapM' v n s) s := by
  simp only [mapKidsM, run_bind, run_pure]
  obtain ⟨g, i, l⟩ := mapVisit_T v hv n.kids s (tgood_kids h)
  exact ⟨tgood_withKids i hb h g l, i⟩

/-- the exit of an arm entered with a child context: the counter reset does not touch the registered set -/
theorem vt_finish {n : Node} {s : St} (root : Bool) {x : Node} {s' : St} (h : VT n (x, s') s) :
    VT n ((if root = true then do resetCounter; pure x else pure x : M Node) s') s := by
  cases root
  · exact h
  · exact h

theorem vt_transform {n : Node} {s : St} {R : Node × St} (h : VT n R s) {X : Option Node × St} (ht : TrT X R.2)
    (st : Status) (tag : Option String) : VT n (X.1.getD R.1, (updateStatus st tag X.2).2) s := by
  refine ⟨?_, (IdSub.trans h.2 ht.1).updateStatus st tag⟩
  rw [updateStatus_idents]
  cases hx : X.1 with
  | none => exact tgood_lift ht.1 h.1
  | some e' => exact ht.2 e' hx

theorem toDdArrow_T {σ} {n : Node} (h : tgood σ n = true) : tgood σ ((toDdArrow n).getD n) = true := by
  unfold toDdArrow
  split
  · split
    · exact h
    · rw [tgood_arrow] at h
      rw [Option.getD_some, tgood_arrow, nt_of_not_temp rfl, returnStmt]
      simpa [kids, nt_of_not_temp (n := .other _ _ _ _) rfl] using h
  · exact h

theorem isClosed_of_ownArm {n : Node} (h : ownArm n = false) : isClosed n = false := by
  cases n <;> first | rfl | exact Bool.noConfusion h

theorem visit_T (cfg : Config) : ∀ (f : Nat) (root : Bool) (n : Node) (s : St),
    tgood s.idents n = true → VT n (visit cfg f root n s) s := by
  intro f
  induction f with
  | zero =>
    intro root n s h
    rw [visit_zero, run_bind, run_pure]
    exact ⟨h, outOfFuel_ids s⟩
  | succ f ih =>
    intro root n s h
    have hv : ∀ r, ∀ k s, tgood s.idents k = true → VT k (visit cfg f r k s) s := fun r k s h => ih r k s h
    by_cases hO : ownArm n = false
    · rw [visit_default cfg f root hO]
      exact mapKids_T _ (hv root) _ s (isClosed_of_ownArm hO) h
    cases n with
    | ident nm sp =>
      rw [visit_ident, run_bind, run_pure]
      exact ⟨h, fun k hk => hk⟩
    | block ss sp =>
      rw [visit_block, run_pure]
      exact ⟨h, IdSub.refl s⟩
    | arrow ps b at' sp =>
      rw [visit_arrow, run_pure]
      exact ⟨toDdArrow_T h, IdSub.refl s⟩
    | unary op a sp =>
      rw [visit_unary]
      by_cases hd : isDelete op = true
      · rw [if_pos hd]; exact ⟨h, IdSub.refl s⟩
      · rw [if_neg hd]; exact mapKids_T _ (hv root) _ s rfl h
    | bin op l r sp =>
      rw [visit_bin]
      by_cases hp : cfg.plusEnabled = true
      · rw [if_pos hp, run_bind]
        have h1 := mapKids_T _ (hv false) (.bin op l r sp) s rfl h
        generalize mapKidsM mapM' (visit cfg f false) (.bin op l r sp) s = R at h1 ⊢
        obtain ⟨n1, s1⟩ := R
        by_cases ho : (op == "+") = true
        · rw [if_pos ho]
          simp only [run_bind, run_pure]
          exact vt_finish root (vt_transform h1 (toDdBinary_T cfg n1 s1 h1.1) _ _)
        · rw [if_neg ho, run_bind]; exact vt_finish root h1
      · rw [if_neg hp]; exact mapKids_T _ (hv root) _ s rfl h
    | assign op l r sp =>
      rw [visit_assign]
      by_cases hp : cfg.plusEnabled = true
      · rw [if_pos hp, run_bind]
        have h1 := mapKids_T _ (hv false) (.assign op l r sp) s rfl h
        generalize mapKidsM mapM' (visit cfg f false) (.assign op l r sp) s = R at h1 ⊢
        obtain ⟨n1, s1⟩ := R
        by_cases ho : (op == "+=") = true
        · rw [if_pos ho]
          simp only [run_bind, run_pure]
          exact vt_finish root (vt_transform h1 (toDdAssign_T cfg n1 s1 h1.1) _ _)
        · rw [if_neg ho, run_bind]; exact vt_finish root h1
      · rw [if_neg hp]; exact mapKids_T _ (hv root) _ s rfl h
    | tpl es qs sp =>
      rw [visit_tpl]
      by_cases hp : cfg.tplEnabled = true
      · rw [if_pos hp]
        by_cases hq : (!es.isEmpty && es.all fun e => !e.isLit) = true
        · rw [if_pos hq, run_bind]
          have h1 := mapKids_T _ (hv false) (.tpl es qs sp) s rfl h
          generalize mapKidsM mapM' (visit cfg f false) (.tpl es qs sp) s = R at h1 ⊢
          obtain ⟨n1, s1⟩ := R
          rw [run_bind, run_bind]
          exact vt_finish root (vt_transform h1 (toDdTpl_T cfg n1 s1 h1.1) _ _)
        · rw [if_neg hq]; exact ⟨h, IdSub.refl s⟩
      · rw [if_neg hp]; exact mapKids_T _ (hv root) _ s rfl h
    | call c as sp =>
      rw [visit_call, run_bind]
      have h1 := mapKids_T _ (hv false) (.call c as sp) s rfl h
      generalize mapKidsM mapM' (visit cfg f false) (.call c as sp) s = R at h1 ⊢
      obtain ⟨n1, s1⟩ := R
      dsimp only
      split
      · split
        · rw [run_bind]; exact vt_finish root h1
        · rw [run_bind]
          obtain ⟨i2, hres⟩ := toDdCall_T cfg _ _ _ s1 h1.1
          generalize toDdCall cfg _ s1 = X at i2 hres ⊢
          obtain ⟨res, s2⟩ := X
          cases res with
          | none =>
            dsimp only
            rw [run_bind]
            exact vt_finish root ⟨tgood_lift i2 h1.1, IdSub.trans h1.2 i2⟩
          | some et =>
            dsimp only
            simp only [run_bind, run_pure]
            exact vt_finish root
              ⟨by rw [updateStatus_idents]; exact hres et.1 et.2 rfl, (IdSub.trans h1.2 i2).updateStatus _ _⟩
      · rw [run_bind]; exact vt_finish root h1
    | optChain o b sp =>
      rw [visit_optChain]
      simp only [run_bind]
      obtain ⟨z, c, i⟩ := toDdCond_t cfg f (.optChain o b sp) s h rfl
      generalize toDdCond cfg f (.optChain o b sp) s = C at z c i ⊢
      obtain ⟨⟨e', res⟩, s1⟩ := C
      have h3 := mapKids_T _ (hv false) _ _ c z
      generalize mapKidsM mapM' (visit cfg f false) (res.getD e') s1 = R at h3 ⊢
      obtain ⟨n1, s2⟩ := R
      exact vt_finish root ⟨h3.1, IdSub.trans i h3.2⟩
    | _ => exact (hO rfl).elim

end IastModel
