import IastModel.Lemmas.NsCount
import IastModel.Lemmas.Targets
import IastModel.Lemmas.Leaf
/-
  Goodness of a rewritten tree (`goodW`, `goodL`) and how it passes through constructors and children.
-/
namespace IastModel
open Node

def isBlockNode : Node → Bool
  | .block .. => true
  | _ => false

/-- Every reference to the hook namespace in the tree is the callee object of a hook call
    `_ddiast.<name>(…)` with `ok name`.  With `u = true` ("unprocessed blocks") every block statement
    inside the tree must moreover be free of the namespace and have well-shaped compound-assignment
    targets: this is the shape of a tree the operation visitor has worked on but whose nested blocks the
    block visitor has not entered yet. -/
def goodW (ok : String → Bool) (u : Bool) (n : Node) : Bool :=
  if u && isBlockNode n then ns n == 0 && bad n == 0
  else match hookName? n with
    | some nm => ok nm && (n.kids.drop 1).attach.all fun k => goodW ok u k.1
    | none => !mentionsNs n && n.kids.attach.all fun k => goodW ok u k.1
termination_by sizeOf n
decreasing_by
  · exact Node.sizeOf_lt_of_mem_kids (List.mem_of_mem_drop k.2)
  · exact Node.sizeOf_lt_of_mem_kids k.2

def goodL (ok : String → Bool) (u : Bool) (l : List Node) : Bool := l.all (goodW ok u)

theorem goodW_eq (ok : String → Bool) (u : Bool) (n : Node) :
    goodW ok u n = if u && isBlockNode n then ns n == 0 && bad n == 0
      else match hookName? n with
        | some nm => ok nm && goodL ok u (n.kids.drop 1)
        | none => !mentionsNs n && goodL ok u n.kids := by
  rw [goodW]
  split
  · rfl
  · split
    · rw [Node.attach_all_eq]; rfl
    · rw [Node.attach_all_eq]; rfl

@[simp] theorem goodL_nil (ok u) : goodL ok u [] = true := rfl
@[simp] theorem goodL_cons (ok u) (x : Node) (xs : List Node) : goodL ok u (x :: xs) = (goodW ok u x && goodL ok u xs) := by
  simp [goodL]
@[simp] theorem goodL_append (ok u) (xs ys : List Node) : goodL ok u (xs ++ ys) = (goodL ok u xs && goodL ok u ys) := by
  simp [goodL, List.all_append]

-- generic constructor rule: for a node that is neither a block nor a hook call
theorem good_generic (ok u) (n : Node) (hb : isBlockNode n = false) (h : hookName? n = none) :
    goodW ok u n = (!mentionsNs n && goodL ok u n.kids) := by
  rw [goodW_eq, h, hb]; simp

theorem good_kids (ok u) (n : Node) (hb : isBlockNode n = false) (h : hookName? n = none) (hm : mentionsNs n = false) :
    goodW ok u n = goodL ok u n.kids := by
  rw [good_generic ok u n hb h, hm]; rfl

@[simp] theorem good_lit (ok u) (k v r : String) (sp : Span) : goodW ok u (.lit k v r sp) = true :=
  good_kids ok u _ rfl rfl rfl
@[simp] theorem good_pname (ok u) (n : String) (sp : Span) : goodW ok u (.pname n sp) = true :=
  good_kids ok u _ rfl rfl rfl
@[simp] theorem good_temp (ok u) (n : Nat) (sp : Span) : goodW ok u (.ident (.temp n) sp) = true :=
  good_kids ok u _ rfl rfl rfl
theorem good_user (ok u) (x : String) (sp : Span) : goodW ok u (.ident (.user x) sp) = !(x == Generated.ddGlobalNamespace) := by
  rw [good_generic _ _ _ rfl rfl]; simp [mentionsNs, kids]
@[simp] theorem good_atom (ok u) (s : String) : goodW ok u (.atom s) = true :=
  good_kids ok u _ rfl rfl rfl
@[simp] theorem good_bin (ok u) (op : String) (l r : Node) (sp : Span) : goodW ok u (.bin op l r sp) = (goodW ok u l && goodW ok u r) :=
  (good_kids ok u _ rfl rfl rfl).trans (congrArg _ (Bool.and_true _))
@[simp] theorem good_assign (ok u) (op : String) (l r : Node) (sp : Span) : goodW ok u (.assign op l r sp) = (goodW ok u l && goodW ok u r) :=
  (good_kids ok u _ rfl rfl rfl).trans (congrArg _ (Bool.and_true _))
@[simp] theorem good_member (ok u) (o p : Node) (sp : Span) : goodW ok u (.member o p sp) = (goodW ok u o && goodW ok u p) :=
  (good_kids ok u _ rfl rfl rfl).trans (congrArg _ (Bool.and_true _))
@[simp] theorem good_arg (ok u) (s : Option Span) (e : Node) : goodW ok u (.arg s e) = goodW ok u e :=
  (good_kids ok u _ rfl rfl rfl).trans (Bool.and_true _)
@[simp] theorem good_paren (ok u) (e : Node) (sp : Span) : goodW ok u (.paren e sp) = goodW ok u e :=
  (good_kids ok u _ rfl rfl rfl).trans (Bool.and_true _)
@[simp] theorem good_seq (ok u) (es : List Node) (sp : Span) : goodW ok u (.seq es sp) = goodL ok u es :=
  good_kids ok u _ rfl rfl rfl
@[simp] theorem good_array (ok u) (es : List Node) (sp : Span) : goodW ok u (.array es sp) = goodL ok u es :=
  good_kids ok u _ rfl rfl rfl
@[simp] theorem good_tpl (ok u) (es qs : List Node) (sp : Span) : goodW ok u (.tpl es qs sp) = (goodL ok u es && goodL ok u qs) :=
  (good_kids ok u _ rfl rfl rfl).trans (goodL_append ..)
@[simp] theorem good_cond (ok u) (t c a : Node) (sp : Span) : goodW ok u (.cond t c a sp) = (goodW ok u t && goodW ok u c && goodW ok u a) := by
  rw [good_generic _ _ _ rfl rfl]; simp [mentionsNs, kids, Bool.and_assoc]
@[simp] theorem good_unary (ok u) (op : String) (a : Node) (sp : Span) : goodW ok u (.unary op a sp) = goodW ok u a :=
  (good_kids ok u _ rfl rfl rfl).trans (Bool.and_true _)
@[simp] theorem good_other (ok u) (k : String) (sp : Span) (ns' : List String) (vs : List Node) : goodW ok u (.other k sp ns' vs) = goodL ok u vs :=
  good_kids ok u _ rfl rfl rfl
@[simp] theorem good_optChain (ok u) (o : Bool) (b : Node) (sp : Span) : goodW ok u (.optChain o b sp) = goodW ok u b :=
  (good_kids ok u _ rfl rfl rfl).trans (Bool.and_true _)
@[simp] theorem good_optCall (ok u) (c : Node) (as : List Node) (sp : Span) : goodW ok u (.optCall c as sp) = (goodW ok u c && goodL ok u as) :=
  good_kids ok u _ rfl rfl rfl
@[simp] theorem good_arrow (ok u) (ps : List Node) (b : Node) (a : String) (sp : Span) : goodW ok u (.arrow ps b a sp) = (goodL ok u ps && goodW ok u b) :=
  (good_kids ok u _ rfl rfl rfl).trans ((goodL_append ..).trans (congrArg _ (Bool.and_true _)))
theorem good_block (ok u) (ss : List Node) (sp : Span) :
    goodW ok u (.block ss sp) = if u then (nsL ss == 0 && badL ss == 0) else goodL ok u ss := by
  rw [goodW_eq]
  cases u <;> simp [isBlockNode, hookName?, mentionsNs, kids, bad_eq, ns_eq, assignTargetOk]

/-- a good identifier / literal does not mention the namespace -/
theorem good_leaf_ns {ok u} {e : Node} (hg : goodW ok u e = true) (hl : leaf e = true) : ns e = 0 := by
  rcases (Bool.or_eq_true _ _).mp hl with h | h
  · unfold Node.isIdent at h
    split at h
    · rename_i nm sp
      cases nm with
      | temp k => exact ns_temp ..
      | user x =>
        rw [good_user, Bool.not_eq_true'] at hg
        rw [ns_user, hg]; rfl
    · cases h
  · exact isLit_ns h

/-- the bare `_ddiast.<name>` is not good by itself -/
theorem not_good_ddCallee (ok u) (x nm : String) (isp psp sp : Span) (h : (x == Generated.ddGlobalNamespace) = true) :
    goodW ok u (.member (.ident (.user x) isp) (.pname nm psp) sp) = false := by
  rw [good_member, good_user, h]; rfl

theorem hookName?_some {n : Node} {nm : String} (h : hookName? n = some nm) :
    ∃ x isp psp msp args sp, n = .call (.member (.ident (.user x) isp) (.pname nm psp) msp) args sp ∧
      (x == Generated.ddGlobalNamespace) = true := by
  unfold hookName? at h
  split at h
  · rename_i x isp name psp msp args sp
    by_cases hx : (x == Generated.ddGlobalNamespace) = true
    · rw [if_pos hx] at h
      cases h
      exact ⟨x, isp, psp, msp, args, sp, rfl, hx⟩
    · rw [if_neg hx] at h; cases h
  · cases h

theorem hookName?_call {c : Node} {as : List Node} {sp : Span} {nm : String} (h : hookName? (.call c as sp) = some nm) :
    ∃ x isp psp msp, c = .member (.ident (.user x) isp) (.pname nm psp) msp ∧ (x == Generated.ddGlobalNamespace) = true := by
  obtain ⟨x, isp, psp, msp, _, _, heq, hx⟩ := hookName?_some h
  cases heq
  exact ⟨x, isp, psp, msp, rfl, hx⟩

theorem hookName?_call_none {ok u} {c : Node} (as : List Node) (sp : Span) (hc : goodW ok u c = true) :
    hookName? (.call c as sp) = none := by
  cases hh : hookName? (.call c as sp) with
  | none => rfl
  | some nm =>
    obtain ⟨x, isp, psp, msp, rfl, hx⟩ := hookName?_call hh
    rw [not_good_ddCallee ok u x nm isp psp msp hx] at hc
    cases hc

/-- a call whose callee is good is not a hook call -/
theorem good_call (ok u) (c : Node) (as : List Node) (sp : Span) (hc : goodW ok u c = true) :
    goodW ok u (.call c as sp) = goodL ok u as := by
  rw [good_generic _ _ _ rfl (hookName?_call_none as sp hc)]
  show (!false && goodL ok u (c :: as)) = _
  rw [goodL_cons, hc]; rfl

/-- the hook call built by `get_dd_call_expr` -/
theorem good_ddCall (ok u) (e : Node) (args : List Node) (m : String) (sp : Span) :
    goodW ok u (ddCall e args m sp) = (ok m && goodW ok u e && goodL ok u args) := by
  rw [goodW_eq]
  simp [ddCall, ddCallee, hookName?, isBlockNode, kids, Bool.and_assoc]

theorem good_ddParen (ok u) (e : Node) (args asg : List Node) (m : String) (sp : Span) :
    goodW ok u (ddParen e args asg m sp) = (ok m && goodW ok u e && goodL ok u args && goodL ok u asg) := by
  unfold ddParen
  split
  · rename_i h; have : asg = [] := by simpa using h
    subst this; simp [good_ddCall]
  · simp [good_ddCall, Bool.and_comm, Bool.and_left_comm]

theorem nsL_eq_zero (l : List Node) (h : nsL l = 0) : ∀ k ∈ l, ns k = 0 := countL_eq_zero mentionsNs h

theorem mentionsNs_of_ns0 {n : Node} (h : ns n = 0) : mentionsNs n = false := by
  rw [ns_eq] at h
  cases hh : mentionsNs n
  · rfl
  · rw [hh, if_pos rfl] at h; omega

theorem nsL_kids_of_ns0 {n : Node} (h : ns n = 0) : nsL n.kids = 0 := by
  rw [ns_eq] at h; omega

/-- a tree that does not mention the namespace (and has well-shaped targets) is good -/
theorem good_of_ns0 (ok u) : ∀ n : Node, ns n = 0 → bad n = 0 → goodW ok u n = true := by
  apply Node.ind
  intro n ih h0 hb0
  rw [goodW_eq]
  split
  · rw [h0, hb0]; rfl
  · have hk : goodL ok u n.kids = true := List.all_eq_true.mpr fun k hk =>
      ih k hk (nsL_eq_zero _ (nsL_kids_of_ns0 h0) k hk) (badL_eq_zero _ (by rw [bad_eq] at hb0; omega) k hk)
    cases hh : hookName? n with
    | none => rw [mentionsNs_of_ns0 h0, hk]; rfl
    | some nm =>
      -- a hook call mentions the namespace in its callee
      obtain ⟨x, isp, psp, msp, args, sp, rfl, hx⟩ := hookName?_some hh
      rw [ns_call, ns_member, ns_user, if_pos hx] at h0
      omega

theorem goodL_of_ns0 (ok u) (l : List Node) (h : nsL l = 0) (hb : badL l = 0) : goodL ok u l = true :=
  List.all_eq_true.mpr fun k hk => good_of_ns0 ok u k (nsL_eq_zero l h k hk) (badL_eq_zero l hb k hk)

end IastModel
