import IastModel.Lemmas.DirectivePass
import IastModel.Lemmas.MirTr
namespace IastModel
open Node

theorem Node.withKids_withKids (n : Node) (ks ks2 : List Node) (h1 : ks.length = n.kids.length) (h2 : ks2.length = n.kids.length) :
    (n.withKids ks).withKids ks2 = n.withKids ks2 := by
  cases n with
  | atom | lit | ident | pname | arr | obj | other | seq | array | block => rfl
  | arg | optChain | unary | paren | exprStmt => rcases ks2 with _ | ⟨a, _ | _⟩ <;> first | rfl | cases h2
  | bin | assign | member => rcases ks2 with _ | ⟨a, _ | ⟨b, _ | _⟩⟩ <;> first | rfl | cases h2
  | cond | ifStmt => rcases ks2 with _ | ⟨a, _ | ⟨b, _ | ⟨c, _ | _⟩⟩⟩ <;> first | rfl | cases h2
  | call | optCall => cases ks2 with | nil => cases h2 | cons => rfl
  | tpl es qs sp =>
    have : (ks.take es.length).length = es.length := by
      rw [List.length_take, h1, kids, List.length_append]; omega
    simp only [withKids, this]
  | arrow ps b at' sp =>
    simp only [kids, List.length_append, List.length_cons, List.length_nil] at h1 h2
    have : (ks.take ps.length).length = ps.length := by rw [List.length_take]; omega
    simp only [withKids, this, List.getD_eq_getElem?_getD, List.getElem?_eq_getElem (show ps.length < ks2.length by omega),
      Option.getD_some]

/-- `BR a b`: `b` is `a` with some block statements replaced by other block statements (same span) —
    what the block visitor does to a tree below the block it is working on -/
inductive BR : Node → Node → Prop
  | blk (ss ss' : List Node) (sp : Span) : BR (.block ss sp) (.block ss' sp)
  | node (n : Node) (ks' : List Node) : isBlockNode n = false → ks'.length = n.kids.length →
      (∀ i (h1 : i < n.kids.length) (h2 : i < ks'.length), BR (n.kids[i]) (ks'[i])) → BR n (n.withKids ks')

def BRL (xs ys : List Node) : Prop :=
  xs.length = ys.length ∧ ∀ i (h1 : i < xs.length) (h2 : i < ys.length), BR xs[i] ys[i]

theorem BRL.nil : BRL [] [] := ⟨rfl, by intro i h; cases h⟩

theorem BRL.cons {a b : Node} {as bs : List Node} (h : BR a b) (hs : BRL as bs) : BRL (a :: as) (b :: bs) := by
  refine ⟨by simp [hs.1], ?_⟩
  intro i h1 h2
  cases i with
  | zero => exact h
  | succ i => exact hs.2 i (by simpa using h1) (by simpa using h2)

theorem BRL.nil_inv {ys : List Node} (h : BRL [] ys) : ys = [] := by
  have := h.1; cases ys <;> simp_all

theorem BRL.cons_inv {a : Node} {as ys : List Node} (h : BRL (a :: as) ys) :
    ∃ b bs, ys = b :: bs ∧ BR a b ∧ BRL as bs := by
  cases ys with
  | nil => have := h.1; simp at this
  | cons b bs =>
    refine ⟨b, bs, rfl, h.2 0 (by simp) (by simp), ?_, ?_⟩
    · have := h.1; simpa using this
    · intro i h1 h2
      exact h.2 (i + 1) (by simpa using h1) (by simpa using h2)

theorem BR.node' {n : Node} {ks' : List Node} (hb : isBlockNode n = false) (h : BRL n.kids ks') : BR n (n.withKids ks') :=
  BR.node n ks' hb h.1.symm (fun i h1 h2 => h.2 i h1 h2)

theorem BR.refl : ∀ n : Node, BR n n := by
  apply Node.ind
  intro n ih
  by_cases hb : isBlockNode n = true
  · cases n <;> first | exact BR.blk _ _ _ | simp [isBlockNode] at hb
  · simp only [Bool.not_eq_true] at hb
    have := BR.node n n.kids hb rfl (fun i h1 _ => ih _ (List.getElem_mem h1))
    rwa [Node.withKids_kids] at this

theorem BRL.refl (l : List Node) : BRL l l := ⟨rfl, fun i _ _ => BR.refl _⟩

/-- inversion: a non-block node is rewritten child-wise -/
theorem BR.inv {a b : Node} (h : BR a b) (hb : isBlockNode a = false) :
    ∃ ks', b = a.withKids ks' ∧ BRL a.kids ks' := by
  cases h with
  | blk => simp [isBlockNode] at hb
  | node n ks' _ hl hk => exact ⟨ks', rfl, hl.symm, hk⟩

/-- whatever looks only at a node's constructor and at its fields other than the children cannot tell
    the two sides of `BR` apart: a replaced block is the old one with other children -/
theorem BR.head {α : Type} {f : Node → α} (hf : ∀ n ks, f (n.withKids ks) = f n) {a b : Node} (h : BR a b) :
    f b = f a := by
  cases h with
  | blk ss ss' sp => exact hf (.block ss sp) ss'
  | node _ ks' _ _ _ => exact hf _ ks'

theorem BR.isBlock {a b : Node} (h : BR a b) : isBlockNode b = isBlockNode a := h.head isBlockNode_withKids

theorem BR.trans {a b c : Node} (h1 : BR a b) (h2 : BR b c) : BR a c := by
  induction h1 generalizing c with
  | blk ss ss' sp =>
    cases h2 with
    | blk _ ss'' _ => exact BR.blk _ _ _
    | node n ks' hb _ _ => simp [isBlockNode] at hb
  | node n ks' hb hl hk ih =>
    have hb' : isBlockNode (n.withKids ks') = false := by rw [isBlockNode_withKids]; exact hb
    obtain ⟨ks'', hc, hk2⟩ := h2.inv hb'
    rw [Node.kids_withKids n ks' hl] at hk2
    subst hc
    rw [Node.withKids_withKids n ks' ks'' hl (by rw [← hk2.1, hl])]
    refine BR.node n ks'' hb (by rw [← hk2.1, hl]) ?_
    intro i h1 h2
    exact ih i h1 (by omega) (hk2.2 i (by omega) h2)

end IastModel
