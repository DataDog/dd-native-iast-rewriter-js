import IastModel.Lemmas.CwMaster
import IastModel.Spec.Coverage
import IastModel.Spec.EraseSpec
namespace IastModel
open Node

/-- (name, span) of a hook call, as the coverage oracle reads it -/
def hookSiteOf (h : Node) : Option (String × Span) :=
  match h with
  | .call (.member _ (.pname name _) _) _ sp => some (name, sp)
  | _ => none

/-- the hook call with replacement name `d` for the operation at `sp0` -/
def qAt (d : String) (sp0 : Span) (h : Node) : Bool := decide (hookSiteOf h = some (d, sp0))

theorem qAt_ddCall (d : String) (sp0 : Span) (e : Node) (args : List Node) (m : String) (sp : Span) :
    qAt d sp0 (ddCall e args m sp) = (decide (m = d) && decide (sp = sp0)) := by
  simp [qAt, hookSiteOf, ddCall, ddCallee]

/-- receiver kinds for which the theorem claims `recv.m(..)` (the specification's `receiverCovered`, with
    the property of a member receiver a plain name or a computed key) -/
def recvOK (cfg : Config) (m : String) : Node → Bool
  | .ident .. => true
  | .call .. => true
  | .paren .. => true
  | .array .. => true
  | .member _ (.pname p _) _ => p != Generated.prototypeName
  | .member _ (.other ..) _ => true
  | .lit .. => cfg.allowsLiteralCallers m
  | _ => false

def isOtherNode : Node → Bool
  | .other .. => true
  | _ => false

/-- the `+` / `+=` / template / `recv.m(..)` occurrence (if any) this node is, as a 0/1 count for the site `(d, sp0)`
    (`reqOwn_spec_bin`, `reqOwn_spec_assign`, `reqOwn_spec_call`, `reqOwn_spec_tpl` relate it to the specification's `ownOcc`) -/
def reqOwn (cfg : Config) (d : String) (sp0 : Span) (n : Node) : Nat :=
  match n with
  | .bin op l r sp =>
    if op == "+" && cfg.plusEnabled && !(isLiteralSum l && isLiteralSum r) && decide (cfg.plusName = d) && decide (sp = sp0) then 1 else 0
  | .tpl exprs _ sp =>
    if cfg.tplEnabled && !exprs.isEmpty && exprs.all (fun e => !e.isLit) && decide (cfg.tplName = d) && decide (sp = sp0) then 1 else 0
  | .assign op left _ sp =>
    if op == "+=" && cfg.plusEnabled && !isOtherNode left && decide (cfg.plusName = d) && decide (sp = sp0) then 1 else 0
  | .call (.member recv (.pname m _) _) _ sp =>
    match cfg.get m with
    | some csi => if !isCallOrApply m && recvOK cfg m recv && decide (csi.dst = d) && decide (sp = sp0) then 1 else 0
    | none => 0
  | _ => 0

/-- the children the operation visitor visits (the specification's exclusions: operands of `delete`,
    templates with a literal substitution; blocks and arrow functions belong to the block visitor;
    an optional chain that is lowered — `noOpt`: one that reaches a configured method — is not claimed
    here, every other optional chain is walked through like any expression) -/
def visitedKids (cfg : Config) (n : Node) : List Node :=
  match n with
  | .block .. => []
  | .arrow .. => []
  | .optChain o b sp => if noOpt cfg (.optChain o b sp) then [b] else []
  | .ident .. => []
  | .unary op a _ => if isDelete op then [] else [a]
  | .tpl exprs qs _ =>
    if cfg.tplEnabled && !(!exprs.isEmpty && exprs.all (fun e => !e.isLit)) then [] else exprs ++ qs
  | _ => n.kids

theorem visitedKids_sub (cfg : Config) (n k : Node) (h : k ∈ visitedKids cfg n) : k ∈ n.kids := by
  unfold visitedKids at h
  split at h
  · cases h
  · cases h
  · split at h
    · simpa [kids] using h
    · cases h
  · cases h
  · split at h
    · cases h
    · simpa [kids] using h
  · split at h
    · cases h
    · simpa [kids] using h
  · exact h

/-- occurrences (`+`, `+=`, template, `recv.m(..)`: `reqOwn`) that require a hook of name `d` at position `sp0`, in the
    positions the operation visitor reaches from `n` -/
def R (cfg : Config) (d : String) (sp0 : Span) (n : Node) : Nat :=
  reqOwn cfg d sp0 n + ((visitedKids cfg n).attach.map fun x => R cfg d sp0 x.1).sum
termination_by sizeOf n
decreasing_by exact Node.sizeOf_lt_of_mem_kids (visitedKids_sub cfg n x.1 x.2)

def RL (cfg : Config) (d : String) (sp0 : Span) (l : List Node) : Nat := (l.map (R cfg d sp0)).sum

theorem R_eq (cfg : Config) (d : String) (sp0 : Span) (n : Node) :
    R cfg d sp0 n = reqOwn cfg d sp0 n + RL cfg d sp0 (visitedKids cfg n) := by
  rw [R, Node.attach_map_eq]; rfl

@[simp] theorem RL_nil (cfg d sp0) : RL cfg d sp0 [] = 0 := rfl
@[simp] theorem RL_cons (cfg d sp0) (x : Node) (xs : List Node) : RL cfg d sp0 (x :: xs) = R cfg d sp0 x + RL cfg d sp0 xs := by simp [RL]
@[simp] theorem RL_append (cfg d sp0) (xs ys : List Node) : RL cfg d sp0 (xs ++ ys) = RL cfg d sp0 xs + RL cfg d sp0 ys := by simp [RL, List.sum_append]

theorem litSum_eq : ∀ e : Node, litSum e = isLiteralSum e := by
  apply Node.ind
  intro e ih
  unfold litSum
  split
  · rfl
  · rename_i l r sp
    rw [ih l (by simp [kids]), ih r (by simp [kids])]
    simp only [isLiteralSum, beq_self_eq_true, Bool.true_and]
  · rename_i h1 h2
    unfold isLiteralSum
    split
    · exact absurd rfl (h1 _ _ _ _)
    · rename_i op l r sp
      have : (op == "+") = false := by
        cases h : op == "+"
        · rfl
        · exact absurd (by rw [eq_of_beq h]) (h2 l r sp)
      rw [this]; rfl
    · rfl
/-- an operand that is not a sum of literals, once pushed, makes the `+` transform go ahead -/
theorem mustReplace_push (args : List Node) (x : Node) (k : IdentKind) (h : isLiteralSum x = false) :
    mustReplaceBinary (args ++ [exprOrSpread x k]) = true := by
  have : argExpr (exprOrSpread x k) = x := by cases k <;> rfl
  rw [mustReplaceBinary, List.any_append, List.any_cons, this, h]
  simp only [Bool.not_false, Bool.true_or, Bool.or_true]

theorem replaceDefault_mustReplace (e : Node) (asg args : List Node) (sp : Span) (kind : IdentKind) (s : St)
    (h : isLiteralSum e = false) :
    mustReplaceBinary (replaceDefault e asg args sp kind s).1.2.2 = true := by
  obtain ⟨h1, h2⟩ := replaceDefault_push e asg args sp kind s
  rw [h1]
  rcases h2 with ⟨h2, _⟩ | ⟨n, h2⟩ <;> rw [h2]
  · exact mustReplace_push _ _ _ h
  · exact mustReplace_push _ _ _ rfl

/-- what the operand handler pushes for an operand that is neither a sum of literals nor an
    un-instrumented `+` chain makes the `+` transform go ahead -/
theorem rne_mustReplace (e : Node) (mode : IdentMode) (asg args : List Node) (sp : Span) (k : IdentKind) (s : St)
    (h1 : isLiteralSum e = false) (h2 : nlSum e = false) :
    mustReplaceBinary (replaceExprNoExpand e mode asg args sp k s).1.2.2 = true := by
  unfold replaceExprNoExpand
  split
  · cases h1
  · split
    · exact replaceDefault_mustReplace _ _ _ _ _ _ h1
    · exact mustReplace_push _ _ _ h1
  · rename_i op l r bsp
    by_cases hop : (op != "+") = true
    · rw [if_pos hop]; exact replaceDefault_mustReplace _ _ _ _ _ _ h1
    · exfalso
      have hop' : op = "+" := by simpa using hop
      subst hop'
      rw [nlSum, h1] at h2
      cases h2
  · exact replaceDefault_mustReplace _ _ _ _ _ _ h1
theorem mustReplace_mono' (args extra : List Node) (h : mustReplaceBinary args = true) : mustReplaceBinary (args ++ extra) = true := by
  simp [mustReplaceBinary] at h ⊢
  obtain ⟨a, ha, hna⟩ := h
  exact Or.inl ⟨a, ha, hna⟩

/-- the `+` transform declines only a sum of literals (when no operand is an un-instrumented `+` chain) -/
theorem toDdBinary_none (cfg : Config) (l r : Node) (sp : Span) (s : St)
    (hn : (toDdBinary cfg (.bin "+" l r sp) s).1 = none) (hl : nlSum l = false) (hr : nlSum r = false) :
    isLiteralSum l = true ∧ isLiteralSum r = true := by
  simp only [toDdBinary, run_bind, replaceExpr_false] at hn
  have a1 := fun h => rne_mustReplace l (getIdentMode r) [] [] sp .expr s h hl
  generalize replaceExprNoExpand l (getIdentMode r) [] [] sp .expr s = R1 at hn a1
  obtain ⟨⟨l', asg1, args1⟩, s1⟩ := R1
  simp only at hn a1
  have a2 := fun h => rne_mustReplace r (getIdentMode l') asg1 args1 sp .expr s1 h hr
  have p2 := (replaceExprNoExpand_push r (getIdentMode l') asg1 args1 sp .expr s1).1
  generalize replaceExprNoExpand r (getIdentMode l') asg1 args1 sp .expr s1 = R2 at hn a2 p2
  obtain ⟨⟨r', asg2, args2⟩, s2⟩ := R2
  simp only at hn a2 p2
  split at hn
  · simp [run_pure] at hn
  · rename_i hm
    constructor
    · cases h : isLiteralSum l
      · exfalso
        have := a1 h
        rw [p2] at hm
        exact hm (mustReplace_mono' args1 _ this)
      · rfl
    · cases h : isLiteralSum r
      · exfalso; exact hm (a2 h)
      · rfl

theorem ownOcc_bin_op {cfg : Config} {op : String} {l r : Node} {sp : Span} {o : Occ}
    (h : ownOcc cfg (.bin op l r sp) = some o) : op = "+" := by
  unfold ownOcc at h
  split at h <;> first | (rename_i heq; cases heq; rfl) | (rename_i heq; cases heq) | cases h

theorem ownOcc_assign_op {cfg : Config} {op : String} {l r : Node} {sp : Span} {o : Occ}
    (h : ownOcc cfg (.assign op l r sp) = some o) : op = "+=" := by
  unfold ownOcc at h
  split at h <;> first | (rename_i heq; cases heq; rfl) | (rename_i heq; cases heq) | cases h

/-- the specification's `+` occurrence is counted -/
theorem reqOwn_spec_bin (cfg : Config) (op : String) (l r : Node) (sp : Span) (o : Occ)
    (h : ownOcc cfg (.bin op l r sp) = some o) : reqOwn cfg o.dst o.sp (.bin op l r sp) = 1 := by
  cases ownOcc_bin_op h
  replace h : (if (cfg.plusEnabled && !(litSum l && litSum r)) = true then some (Occ.mk cfg.plusName sp "+") else none) = some o := h
  rw [litSum_eq, litSum_eq] at h
  by_cases hc : (cfg.plusEnabled && !(isLiteralSum l && isLiteralSum r)) = true
  · rw [if_pos hc] at h
    cases h
    simp only [reqOwn, beq_self_eq_true, Bool.true_and, hc, decide_true, Bool.and_self, if_true]
  · rw [if_neg hc] at h; cases h

theorem ownOcc_assign (cfg : Config) (l r : Node) (sp : Span) :
    ownOcc cfg (.assign "+=" l r sp) = if (cfg.plusEnabled && !isOtherNode l) = true then some ⟨cfg.plusName, sp, "+="⟩ else none := by
  cases l <;> rfl

/-- the specification's `+=` occurrence is counted -/
theorem reqOwn_spec_assign (cfg : Config) (op : String) (l r : Node) (sp : Span) (o : Occ)
    (h : ownOcc cfg (.assign op l r sp) = some o) : reqOwn cfg o.dst o.sp (.assign op l r sp) = 1 := by
  cases ownOcc_assign_op h
  rw [ownOcc_assign] at h
  by_cases hc : (cfg.plusEnabled && !isOtherNode l) = true
  · rw [if_pos hc] at h
    cases h
    simp only [Bool.and_eq_true] at hc
    simp only [reqOwn, hc.1, hc.2, beq_self_eq_true, Bool.and_self, decide_true, if_true]
  · rw [if_neg hc] at h; cases h
/-- the specification's plain method-call occurrence is counted (receiver of a claimed kind, method not
    named `call` / `apply`) -/
theorem reqOwn_spec_call (cfg : Config) (recv : Node) (m : String) (msp cmsp : Span) (cargs : List Node) (sp : Span) (csi : CsiMethod)
    (hg : cfg.get m = some csi) (hca : isCallOrApply m = false) (hr : recvOK cfg m recv = true) :
    ownOcc cfg (.call (.member recv (.pname m msp) cmsp) cargs sp) = some ⟨csi.dst, sp, "call"⟩ ∧
    reqOwn cfg csi.dst sp (.call (.member recv (.pname m msp) cmsp) cargs sp) = 1 := by
  have hrc : receiverCovered cfg m recv = true := by
    unfold recvOK at hr
    split at hr <;> first | rfl | exact hr | cases hr
  constructor
  · show (match cfg.get m with
      | some csi => if receiverCovered cfg m recv = true then some (Occ.mk csi.dst sp "call") else none
      | none => _) = _
    rw [hg]
    exact if_pos hrc
  · simp only [reqOwn, hg, hca, hr, Bool.not_false, Bool.and_self, decide_true, if_true]

/-- the specification's template occurrence is counted -/
theorem reqOwn_spec_tpl (cfg : Config) (exprs qs : List Node) (sp : Span) (o : Occ)
    (h : ownOcc cfg (.tpl exprs qs sp) = some o) : reqOwn cfg o.dst o.sp (.tpl exprs qs sp) = 1 := by
  replace h : (if (cfg.tplEnabled && !exprs.isEmpty && exprs.all (fun e => !e.isLit)) = true
      then some (Occ.mk cfg.tplName sp "Tpl") else none) = some o := h
  by_cases hc : (cfg.tplEnabled && !exprs.isEmpty && exprs.all (fun e => !e.isLit)) = true
  · rw [if_pos hc] at h
    cases h
    simp only [reqOwn, hc, decide_true, Bool.and_self, if_true]
  · rw [if_neg hc] at h; cases h

end IastModel
