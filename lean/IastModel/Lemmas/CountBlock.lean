import IastModel.Lemmas.CountVisit
/-
  The block visitor and the program traversal under an arbitrary counter: `blockVisit_rel` lifts a relation
  established for the operation visitor (`visit_rel`) to every block statement at any depth, and
  `program_rel` to the file.  Both are conditional on the run not being cancelled at the end.
-/
namespace IastModel
open Node

theorem hookName?_mapBlocks (cfg : Config) (ok : String → Bool) (hcfg : CfgOk ok cfg) (opFuel f : Nat) (n : Node) (s : St)
    (hn : hookName? n = none) (hs : StOk s) (hg : goodL ok true n.kids = true)
    (hfin : StOk (mapKidsM mapM' (blockVisit cfg opFuel f) n s).2) :
    hookName? (mapKidsM mapM' (blockVisit cfg opFuel f) n s).1 = none := by
  simp only [mapKidsM, run_bind, run_pure] at hfin ⊢
  obtain ⟨g3, l3, _⟩ := mapBlock_spec ok (blockVisit cfg opFuel f)
    (fun k s hs hg => blockVisit_spec ok cfg hcfg opFuel f k s hs hg)
    (fun k s h => blockVisit_canc cfg opFuel f k s h) n.kids s hs hg hfin
  cases n with
  | call c as sp =>
    match hks : (mapM' (blockVisit cfg opFuel f) (Node.call c as sp).kids s).1, l3, g3 with
    | c' :: as', _, g3 =>
      simp only [goodL_cons, Bool.and_eq_true] at g3
      exact hookName?_call_none _ _ g3.1
  | _ => rfl

theorem goodL_kids {ok : String → Bool} {n : Node} (hb : isBlockNode n = false) (hn : hookName? n = none)
    (hg : goodW ok true n = true) : goodL ok true n.kids = true := by
  rw [good_generic _ _ _ hb hn, Bool.and_eq_true] at hg
  exact hg.2

theorem goodL_kids_of_ns0 (ok : String → Bool) {n : Node} (h0 : ns n = 0) (ht : targetsOk n = true) :
    goodL ok true n.kids = true :=
  goodL_of_ns0 ok true _ (nsL_kids_of_ns0 h0) (by have := (bad_zero_iff n).mpr ht; rw [bad_eq] at this; omega)

section
variable {p : Node → Bool} {R : St → St → Nat → Nat → Prop}

theorem countL_take_drop (p : Node → Bool) (ks : List Node) (i : Nat) :
    countL p (ks.take i) + countL p (ks.drop i) = countL p ks := by
  conv => rhs; rw [← List.take_append_drop i ks]
  rw [countL_append]

theorem insertVar_cnt (hlet : ∀ idents sp, count p (letDecl idents sp) = 0) (idents : List Nat) (ks : List Node) (sp : Span) :
    ∃ ks2, insertVariableDeclaration idents (.block ks sp) = .block ks2 sp ∧ countL p ks2 = countL p ks := by
  simp only [insertVariableDeclaration]
  split
  · exact ⟨ks, rfl, rfl⟩
  · refine ⟨_, rfl, ?_⟩
    have := countL_take_drop p ks (variableInsertionIndex ks)
    simp only [insertAt, countL_append, countL_cons, countL_nil, hlet]
    omega

theorem count_insertPrologue (p : Node → Bool) (pro : List Node) (k : String) (sp : Span) (ns' : List String) (body vs : List Node)
    (hother : ∀ vs', p (.other k sp ("body" :: ns') vs') = p (.other k sp ("body" :: ns') (.arr body :: vs)))
    (harr : ∀ xs, p (.arr xs) = false) :
    count p (insertPrologue pro (.other k sp ("body" :: ns') (.arr body :: vs))) =
      count p (.other k sp ("body" :: ns') (.arr body :: vs)) + countL p pro := by
  have := countL_take_drop p body (variableInsertionIndex body)
  simp only [insertPrologue, count_other, hother, countL_cons, count_arr, harr, insertAt, countL_append]
  omega

theorem letDecl_cnt (hd : ∀ k sp ns vs, (k = "VariableDeclaration" ∨ k = "VariableDeclarator") → p (.other k sp ns vs) = false)
    (ha : ∀ s, p (.atom s) = false) (harr : ∀ xs, p (.arr xs) = false) (ht : ∀ n sp, p (.ident (.temp n) sp) = false)
    (idents : List Nat) (sp : Span) : count p (letDecl idents sp) = 0 := by
  have h1 : ∀ l : List Nat, countL p (l.map fun n => Node.other "VariableDeclarator" sp ["id", "init", "definite"]
      [tempIdent n, .atom "null", .atom "false"]) = 0 := by
    intro l
    induction l with
    | nil => rfl
    | cons x xs ih =>
      simp only [tempIdent] at ih ⊢
      simp only [List.map_cons, countL_cons, ih, count_other, hd _ _ _ _ (Or.inr rfl), countL_nil, count_ident,
        ht, count_atom, ha, Bool.false_eq_true, if_false]
  simp only [letDecl, count_other, hd _ _ _ _ (Or.inl rfl), countL_cons, countL_nil, count_atom, ha, count_arr, harr, h1,
    Bool.false_eq_true, if_false]

variable (hR : CRel R)
include hR

theorem mapBlock_rel (ok) (g : Node → M Node)
    (hb : ∀ k s, StOk s → goodW ok true k = true → StOk (g k s).2 → R s (g k s).2 (count p k) (count p (g k s).1))
    (hc : ∀ k s, s.status = .cancelled → (g k s).2.status = .cancelled) :
    ∀ (ks : List Node) (s : St), StOk s → goodL ok true ks = true → StOk (mapM' g ks s).2 →
      R s (mapM' g ks s).2 (countL p ks) (countL p (mapM' g ks s).1) := by
  intro ks
  induction ks with
  | nil => intro s _ _ _; exact hR.ts _ (TS.refl s)
  | cons x xs ih =>
    intro s hs hg hfin
    simp only [goodL_cons, Bool.and_eq_true] at hg
    simp only [mapM', run_bind, run_pure] at hfin ⊢
    have hs1 : StOk (g x s).2 := fun hcn => hfin (mapM'_canc g hc xs _ hcn)
    exact hR.add (hb x s hs hg.1 hs1) (ih _ hs1 hg.2 hfin)

variable (cfg : Config) (ok : String → Bool) (hcfg : CfgOk ok cfg)
  (hvisit : ∀ f root n s, ns n = 0 → targetsOk n = true → StOk s →
    R s (visit cfg f root n s).2 (count p n) (count p (visit cfg f root n s).1))
  (hlet : ∀ idents sp, count p (letDecl idents sp) = 0)
  (hblk : ∀ ss sp, p (.block ss sp) = false)
  (hhead : ∀ opFuel f n s a b, isBlockNode n = false → StOk s → goodW ok true n = true →
    StOk (mapKidsM mapM' (blockVisit cfg opFuel f) n s).2 → R s (mapKidsM mapM' (blockVisit cfg opFuel f) n s).2 a b →
    R s (mapKidsM mapM' (blockVisit cfg opFuel f) n s).2 ((if p n then 1 else 0) + a)
      ((if p (mapKidsM mapM' (blockVisit cfg opFuel f) n s).1 then 1 else 0) + b))
include hcfg hvisit hlet hblk hhead

/-- The block visitor relates the weight of a node to the weight of what it returns (unless the run is cancelled),
    given that the operation visitor does (`hvisit`), that the injected `let` and a block's own head weigh nothing, and
    `hhead`: how a node's own weight before and after its nested blocks were entered are related, in terms of `R`
    (for most counters the two are equal: `blockVisit_rel`). -/
theorem blockVisit_rel' (opFuel : Nat) : ∀ (f : Nat) (n : Node) (s : St), StOk s → goodW ok true n = true →
    StOk (blockVisit cfg opFuel f n s).2 →
    R s (blockVisit cfg opFuel f n s).2 (count p n) (count p (blockVisit cfg opFuel f n s).1) := by
  intro f
  induction f with
  | zero => intro n s _ _ _; exact hR.ts _ (outOfFuel_TS s)
  | succ f ih =>
    intro n s hs hg
    have hlist := mapBlock_rel (p := p) hR ok (blockVisit cfg opFuel f) (fun k s hs hg => ih k s hs hg)
      (fun k s h => blockVisit_canc cfg opFuel f k s h)
    have hspec := mapBlock_spec ok (blockVisit cfg opFuel f)
      (fun k s hs hg => blockVisit_spec ok cfg hcfg opFuel f k s hs hg)
      (fun k s h => blockVisit_canc cfg opFuel f k s h)
    by_cases hb : isBlockNode n = true
    · cases n with
      | block ss sp =>
        rw [good_block] at hg
        simp only [if_true, Bool.and_eq_true, beq_iff_eq] at hg
        rw [blockVisit_block cfg opFuel f ss sp s hs]
        have hs0 : StOk (resetProvider s) := hs
        have t0 : TS (resetProvider s) s := ⟨rfl, rfl, id⟩
        have h0 : ns (.block ss sp) = 0 := by simp [hg.1]
        have htg : targetsOk (.block ss sp) = true := (bad_zero_iff _).mp (by simp [hg.2])
        obtain ⟨ks', h1, hl, g, e, _⟩ := mapKids_spec' ok (visit cfg opFuel true)
          (fun k s h0 ht hs => visit_spec ok cfg hcfg opFuel true k s h0 ht hs) (.block ss sp) (resetProvider s) h0 htg hs0
        -- the statements, visited one after the other
        have hk : ∀ (ks : List Node) (s : St), nsL ks = 0 → (∀ k ∈ ks, targetsOk k = true) → StOk s →
            R s (mapM' (visit cfg opFuel true) ks s).2 (countL p ks) (countL p (mapM' (visit cfg opFuel true) ks s).1) := by
          intro ks
          induction ks with
          | nil => intro s _ _ _; exact hR.ts _ (TS.refl s)
          | cons k ks ihk =>
            intro s hz htk hs
            simp only [nsL_cons] at hz
            simp only [mapM', run_bind, run_pure, countL_cons]
            have hsp := visit_spec ok cfg hcfg opFuel true k s (by omega) (htk k (by simp)) hs
            exact hR.add (hvisit opFuel true k s (by omega) (htk k (by simp)) hs)
              (ihk _ (by omega) (fun x hx => htk x (by simp [hx])) (hsp.2.1.stOk hs))
        have he1 := hk ss (resetProvider s) hg.1 (targetsOk_kids htg) hs0
        have hK : mapKidsM mapM' (visit cfg opFuel true) (.block ss sp) (resetProvider s) =
            (.block (mapM' (visit cfg opFuel true) ss (resetProvider s)).1 sp, (mapM' (visit cfg opFuel true) ss (resetProvider s)).2) := by
          simp [mapKidsM, run_bind, run_pure, withKids, kids]
        rw [hK] at h1 e ⊢
        generalize mapM' (visit cfg opFuel true) ss (resetProvider s) = K at h1 e he1
        obtain ⟨ks1, s1⟩ := K
        simp only [withKids] at h1 e he1 ⊢
        have hks : ks' = ks1 := by injection h1 with h; exact h.symm
        subst hks
        split
        · intro hfin; exact absurd rfl hfin
        · obtain ⟨ks2, hins, g2, _⟩ := insertVar_spec ok s1.idents ks' sp g
          obtain ⟨ks2', hins', e2⟩ := insertVar_cnt hlet s1.idents ks' sp
          have : ks2' = ks2 := by rw [hins] at hins'; injection hins' with h; exact h.symm
          subst this
          rw [hins]
          simp only [mapKidsM, kids, run_bind, run_pure, withKids]
          intro hfin
          have e01 : Eff s s1 (nsL ks') := ((Eff.of_TS t0).trans e).cast (by omega)
          have h3 := hlist ks2' s1 (e01.stOk hs) g2 hfin
          rw [count_block, count_block, hblk, hblk]
          rw [e2] at h3
          exact hR.add (hR.ts 0 (TS.refl s)) (hR.trans (hR.trans (hR.ts _ t0) he1) h3)
      | _ => simp [isBlockNode] at hb
    · simp only [Bool.not_eq_true] at hb
      rw [blockVisit_generic cfg opFuel f n hb]
      have hg' := hg
      rw [goodW_eq] at hg'
      simp only [hb, Bool.and_false, Bool.false_eq_true, if_false] at hg'
      cases hh : hookName? n with
      | none =>
        intro hfin
        have hd := hhead opFuel f n s (countL p n.kids) (countL p (mapM' (blockVisit cfg opFuel f) n.kids s).1) hb hs hg hfin
        rw [hh] at hg'
        simp only [Bool.and_eq_true, Bool.not_eq_true'] at hg'
        simp only [mapKidsM, run_bind, run_pure] at hfin hd ⊢
        obtain ⟨_, l3, _⟩ := hspec n.kids s hs hg'.2 hfin
        rw [count_withKids p n _ l3, count_eq' p n]
        exact hd (hlist n.kids s hs hg'.2 hfin)
      | some nm =>
        -- a hook call built by the operation visitor of an enclosing block: only its arguments are entered
        obtain ⟨x, isp, psp, msp, args, sp, rfl, hx⟩ := hookName?_some hh
        intro hfin
        have hd := hhead opFuel f _ s (count p (.member (.ident (.user x) isp) (.pname nm psp) msp) + countL p args)
          (count p (.member (.ident (.user x) isp) (.pname nm psp) msp) +
            countL p (mapM' (blockVisit cfg opFuel f) args
              (blockVisit cfg opFuel f (.member (.ident (.user x) isp) (.pname nm psp) msp) s).2).1) hb hs hg hfin
        rw [hh] at hg'
        simp only [kids, List.drop_succ_cons, List.drop_zero, Bool.and_eq_true] at hg'
        simp only [mapKidsM, kids, mapM', run_bind, run_pure] at hfin hd ⊢
        have hc := blockVisit_callee cfg opFuel f (.user x) isp nm psp msp s
        generalize blockVisit cfg opFuel f (.member (.ident (.user x) isp) (.pname nm psp) msp) s = RC at hc hfin hd
        obtain ⟨c', s1⟩ := RC
        obtain ⟨hc1, t1⟩ := hc
        dsimp only at hc1 t1 hfin hd ⊢
        subst hc1
        have e3 := hlist args s1 ((Eff.of_TS t1).stOk hs) hg'.2 hfin
        simp only [withKids, List.getD_cons_zero, List.drop_succ_cons, List.drop_zero] at hd ⊢
        rw [count_call, count_call]
        exact hd (hR.add (hR.ts _ (TS.refl s)) (hR.trans (hR.ts _ t1) e3))

omit hhead in
/-- the block visitor, for a counter whose value at a node does not depend on what happens inside the node's nested
    blocks (`hstable`) nor on a call's arguments (`hargs`) -/
theorem blockVisit_rel (hargs : ∀ c as as' sp, p (.call c as' sp) = p (.call c as sp))
    (hstable : ∀ opFuel f n s, isBlockNode n = false → hookName? n = none → StOk s → goodW ok true n = true →
      StOk (mapKidsM mapM' (blockVisit cfg opFuel f) n s).2 →
      p (mapKidsM mapM' (blockVisit cfg opFuel f) n s).1 = p n)
    (opFuel : Nat) : ∀ (f : Nat) (n : Node) (s : St), StOk s → goodW ok true n = true →
    StOk (blockVisit cfg opFuel f n s).2 →
    R s (blockVisit cfg opFuel f n s).2 (count p n) (count p (blockVisit cfg opFuel f n s).1) := by
  refine blockVisit_rel' hR cfg ok hcfg hvisit hlet hblk (fun opFuel f n s a b hb hs hg hfin h => ?_) opFuel
  have e : p (mapKidsM mapM' (blockVisit cfg opFuel f) n s).1 = p n := by
    cases hh : hookName? n with
    | none => exact hstable opFuel f n s hb hh hs hg hfin
    | some nm =>
      obtain ⟨x, isp, psp, msp, args, sp, rfl, _⟩ := hookName?_some hh
      simp only [mapKidsM, kids, mapM', run_bind, run_pure, withKids, List.getD_cons_zero, List.drop_succ_cons, List.drop_zero]
      rw [(blockVisit_callee cfg opFuel f (.user x) isp nm psp msp s).1]
      exact hargs _ _ _ _
  rw [e]
  exact hR.add (hR.ts _ (TS.refl s)) h

omit hhead in
theorem program_rel (hargs : ∀ c as as' sp, p (.call c as' sp) = p (.call c as sp))
    (hstable : ∀ opFuel f n s, isBlockNode n = false → hookName? n = none → StOk s → goodW ok true n = true →
      StOk (mapKidsM mapM' (blockVisit cfg opFuel f) n s).2 →
      p (mapKidsM mapM' (blockVisit cfg opFuel f) n s).1 = p n)
    (hroot : ∀ fuel prog, ns prog = 0 → targetsOk prog = true →
      StOk (mapKidsM mapM' (blockVisit cfg fuel fuel) prog {}).2 →
      p (mapKidsM mapM' (blockVisit cfg fuel fuel) prog {}).1 = p prog)
    (fuel : Nat) (prog : Node) (h0 : ns prog = 0) (ht : targetsOk prog = true)
    (hfin : StOk (mapKidsM mapM' (blockVisit cfg fuel fuel) prog {}).2) :
    R {} (mapKidsM mapM' (blockVisit cfg fuel fuel) prog {}).2 (count p prog)
      (count p (mapKidsM mapM' (blockVisit cfg fuel fuel) prog {}).1) := by
  have hst := hroot fuel prog h0 ht hfin
  simp only [mapKidsM, run_bind, run_pure] at hfin hst ⊢
  have hs0 : StOk ({} : St) := by intro h; cases h
  have hk : goodL ok true prog.kids = true := goodL_kids_of_ns0 ok h0 ht
  have hblockv := blockVisit_rel (p := p) hR cfg ok hcfg hvisit hlet hblk hargs hstable fuel fuel
  have hlist := mapBlock_rel (p := p) hR ok (blockVisit cfg fuel fuel) hblockv
    (fun k s h => blockVisit_canc cfg fuel fuel k s h) prog.kids {} hs0 hk hfin
  obtain ⟨_, l3, _⟩ := mapBlock_spec ok (blockVisit cfg fuel fuel)
    (fun k s hs hg => blockVisit_spec ok cfg hcfg fuel fuel k s hs hg)
    (fun k s h => blockVisit_canc cfg fuel fuel k s h) prog.kids {} hs0 hk hfin
  rw [count_withKids p prog _ l3, hst, count_eq' p prog]
  exact hR.add (hR.ts _ (TS.refl _)) hlist

end
end IastModel
