import IastModel.Lemmas.CovCall
namespace IastModel
open Node

theorem covM_ddParen (cfg : Config) (m : String) (e : Node) (args asg : List Node) (name : String) (sp : Span) :
    covM cfg m (ddParen e args asg name sp) = true := by
  unfold ddParen
  split <;> rfl

theorem visit_pname (cfg : Config) (f : Nat) (r : Bool) (p : String) (sp : Span) (s : St) :
    (visit cfg f r (.pname p sp) s).1 = .pname p sp := by
  cases f with
  | zero => simp [visit, run_bind, run_pure]
  | succ f => simp [visit, mapKidsM, kids, mapM', run_bind, run_pure, withKids]

theorem covM_of_recvOK (cfg : Config) (m : String) (obj : Node) (h : recvOK cfg m obj = true) : covM cfg m obj = true := by
  unfold recvOK at h
  split at h
  · rfl
  · rfl
  · rfl
  · rfl
  · rename_i p _ _
    show (!(p == Generated.prototypeName)) = true
    exact h
  · rfl
  · exact h
  · cases h

/-- a receiver the theorem claims is still one `to_dd_call_expr` instruments after it has been visited -/
theorem covM_visit (cfg : Config) (m : String) (obj : Node) (h : recvOK cfg m obj = true) (f : Nat) (r : Bool) (s : St) :
    covM cfg m (visit cfg f r obj s).1 = true := by
  cases f with
  | zero => exact covM_of_recvOK cfg m obj h
  | succ f =>
    have h' := h
    unfold recvOK at h'
    split at h'
    · rfl
    · rename_i c as sp
      -- the visited call, or what `to_dd_call_expr` puts in its place
      generalize hV : (visit cfg (f + 1) r (.call c as sp) s).1 = V
      rw [visit, run_bind] at hV
      have hK : ∃ c' as', (mapKidsM mapM' (visit cfg f false) (.call c as sp) s).1 = .call c' as' sp := ⟨_, _, rfl⟩
      generalize mapKidsM mapM' (visit cfg f false) (.call c as sp) s = K at hV hK
      obtain ⟨n1, s1⟩ := K
      obtain ⟨c', as', rfl⟩ := hK
      dsimp only at hV
      by_cases hne : isNonExprCallee c' = true
      · rw [if_pos hne, run_bind, run_pure, finish_fst] at hV
        subst hV; rfl
      · rw [if_neg hne, run_bind] at hV
        have hm := toDdCall_mirror cfg c' as' sp s1
        generalize toDdCall cfg (.call c' as' sp) s1 = X at hV hm
        obtain ⟨res, s2⟩ := X
        cases res with
        | none => simp only [run_bind, run_pure] at hV; rw [finish_fst] at hV; subst hV; rfl
        | some et =>
          simp only [run_bind, run_pure] at hV
          rw [finish_fst] at hV
          subst hV
          obtain ⟨first, args, asg, name, sp', he', _⟩ := hm et.1 et.2 rfl
          rw [he']; exact covM_ddParen ..
    · simp only [visit, mapKidsM, kids, mapM', run_bind, run_pure, withKids, covM]
    · simp only [visit, mapKidsM, run_bind, run_pure, withKids, covM]
    · rename_i o pn psp sp
      simp only [visit, mapKidsM, kids, mapM', run_bind, run_pure, withKids, List.getD_cons_zero, List.getD_cons_succ]
      rw [visit_pname]
      exact covM_of_recvOK cfg m _ h
    · rename_i o k osp ns' vs sp
      simp only [visit, mapKidsM, kids, mapM', run_bind, run_pure, withKids, List.getD_cons_zero, List.getD_cons_succ]
      obtain ⟨vs', hv⟩ := visit_other cfg f r k osp ns' vs (visit cfg f r o s).2
      rw [hv]; rfl
    · simp only [visit, mapKidsM, kids, mapM', run_bind, run_pure, withKids]
      exact h'
    · cases h'

/-- the callee `recv.m` of a claimed call keeps its shape when it is visited, and its receiver stays one
    that `to_dd_call_expr` instruments -/
theorem visit_member_recv (cfg : Config) (m : String) (recv : Node) (msp cmsp : Span) (h : recvOK cfg m recv = true)
    (f : Nat) (r : Bool) (s : St) :
    ∃ recv', (visit cfg f r (.member recv (.pname m msp) cmsp) s).1 = .member recv' (.pname m msp) cmsp ∧ covM cfg m recv' = true := by
  cases f with
  | zero => exact ⟨recv, rfl, covM_of_recvOK cfg m recv h⟩
  | succ f =>
    refine ⟨(visit cfg f r recv s).1, ?_, covM_visit cfg m recv h f r s⟩
    simp only [visit, mapKidsM, kids, mapM', run_bind, run_pure, withKids, List.getD_cons_zero, List.getD_cons_succ]
    rw [visit_pname]

end IastModel
