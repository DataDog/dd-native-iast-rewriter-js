import IastModel.Lemmas.Count
/-
  The operand handler (`replace_expressions_in_expr` and friends) under an arbitrary counter: what leaves
  the operand position arrives in the assignment list, and the argument list only grows by copies of
  literals, identifiers and sums of literals (`IsPush`), which weigh no more than the operand they were
  copied from and nothing at all for a `CopyBlind` predicate.
-/
namespace IastModel
open Node

/-- what may be handed to a hook as an operand without being moved -/
def Copyable (y : Node) : Prop := isLiteralSum y = true ∨ y.isIdent = true ∨ y = voidZero

def IsPush (x : Node) : Prop := ∃ s y, x = .arg s y ∧ Copyable y

theorem Copyable.of_isLit {y : Node} (h : y.isLit = true) : Copyable y := by
  cases y <;> simp [Node.isLit] at h
  exact Or.inl rfl

theorem isPush_exprOrSpread {y : Node} (k : IdentKind) (h : Copyable y) : IsPush (exprOrSpread y k) := by
  cases k <;> exact ⟨_, y, rfl, h⟩

theorem count_copyable {p : Node → Bool} (hp : Scaf p) (hc : CopyBlind p) {y : Node} (h : Copyable y) : count p y = 0 := by
  rcases h with h | h | h
  · exact hp.c_literalSum_of hc.lit y h
  · cases y <;> simp [Node.isIdent] at h
    rw [count_ident, hc.ident]; rfl
  · rw [h]; exact hp.c_voidZero

theorem countL_pushes {p : Node → Bool} (hp : Scaf p) (hc : CopyBlind p) :
    ∀ {l : List Node}, (∀ x ∈ l, IsPush x) → countL p l = 0
  | [], _ => rfl
  | x :: xs, h => by
    obtain ⟨s, y, rfl, hy⟩ := h x (List.mem_cons_self ..)
    rw [countL_cons, hp.c_arg, count_copyable hp hc hy, countL_pushes hp hc fun z hz => h z (List.mem_cons_of_mem _ hz)]

def OpC (p : Node → Bool) (e : Node) (asg args : List Node) (R : (Node × List Node × List Node) × St) : Prop :=
  count p R.1.1 + countL p R.1.2.1 = count p e + countL p asg ∧
  ∃ pushed, R.1.2.2 = args ++ pushed ∧ (∀ x ∈ pushed, IsPush x) ∧ countL p pushed ≤ count p e

def OpCL (p : Node → Bool) (xs : List Node) (asg args : List Node) (R : (List Node × List Node × List Node) × St) : Prop :=
  countL p R.1.1 + countL p R.1.2.1 = countL p xs + countL p asg ∧
  ∃ pushed, R.1.2.2 = args ++ pushed ∧ (∀ x ∈ pushed, IsPush x) ∧ countL p pushed ≤ countL p xs

section
variable {p : Node → Bool}

theorem OpC.keep (hp : Scaf p) {e : Node} (asg args : List Node) (k : IdentKind) (s : St) (h : Copyable e) :
    OpC p e asg args ((e, asg, args ++ [exprOrSpread e k]), s) :=
  ⟨rfl, [exprOrSpread e k], rfl, fun x hx => by rw [List.mem_singleton.mp hx]; exact isPush_exprOrSpread k h,
    by rw [countL_cons, hp.c_exprOrSpread]; exact Nat.le_refl _⟩

theorem OpC.skip (e : Node) (asg args : List Node) (s : St) : OpC p e asg args ((e, asg, args), s) :=
  ⟨rfl, [], (List.append_nil _).symm, fun _ h => (nomatch h), Nat.zero_le _⟩

variable (hp : Scaf p)
include hp

theorem replaceDefault_cnt (e : Node) (asg args : List Node) (sp : Span) (k : IdentKind) (s : St) :
    OpC p e asg args (replaceDefault e asg args sp k s) := by
  unfold replaceDefault
  simp only [run_bind, run_pure]
  rcases getIdentUsed_cases e asg args sp k s with ⟨hl, h⟩ | ⟨_, n, s', h, _⟩
  · rw [h]; exact OpC.keep hp asg args k s (.of_isLit hl)
  · rw [h]
    refine ⟨?_, [exprOrSpread (tempIdent n) k], rfl,
      fun x hx => by rw [List.mem_singleton.mp hx]; exact isPush_exprOrSpread k (Or.inr (Or.inl rfl)), ?_⟩
    · show count p (tempIdent n) + countL p (asg ++ [.assign "=" (tempIdent n) (assignRight e k) sp]) = _
      rw [countL_append, countL_cons, countL_nil, tempIdent, hp.c_tempAssign, hp.c_assignRight, hp.c_temp]; omega
    · rw [countL_cons, hp.c_exprOrSpread, hp.c_tempIdent]; exact Nat.zero_le _

theorem replaceExprNoExpand_cnt (e : Node) (mode : IdentMode) (asg args : List Node) (sp : Span) (k : IdentKind) (s : St) :
    OpC p e asg args (replaceExprNoExpand e mode asg args sp k s) := by
  cases e with
  | lit kk v r lsp => exact OpC.keep hp asg args k s (Or.inl rfl)
  | ident nm isp =>
    cases mode with
    | replace => exact replaceDefault_cnt hp ..
    | keep => exact OpC.keep hp asg args k s (Or.inr (Or.inl rfl))
  | bin op l r bsp =>
    simp only [replaceExprNoExpand]
    split
    · exact replaceDefault_cnt hp ..
    · split
      · rename_i hls; exact OpC.keep hp asg args k s (Or.inl hls)
      · exact OpC.skip ..
  | _ => exact replaceDefault_cnt hp ..

theorem OpC.arg (spread : Option Span) {e asg args R} (h : OpC p e asg args R) :
    OpC p (.arg spread e) asg args ((.arg spread R.1.1, R.1.2.1, R.1.2.2), R.2) := by
  obtain ⟨h1, h2⟩ := h
  exact ⟨by simpa only [hp.c_arg] using h1, by simpa only [hp.c_arg] using h2⟩

theorem replaceArgNoExpand_cnt (a : Node) (mode : IdentMode) (asg args : List Node) (sp : Span) (s : St) :
    OpC p a asg args (replaceArgNoExpand a mode asg args sp s) := by
  cases a with
  | arg spread e => exact (replaceExprNoExpand_cnt hp e mode asg args sp _ s).arg hp spread
  | _ => exact OpC.skip ..

theorem replaceElem_cnt (a : Node) (mode : IdentMode) (asg args : List Node) (sp : Span) (s : St) :
    OpC p a asg args (replaceElem a mode asg args sp s) := by
  unfold replaceElem
  split
  · exact replaceArgNoExpand_cnt hp _ mode asg args sp s
  · exact ⟨rfl, [.arg none voidZero], rfl,
      fun x hx => by rw [List.mem_singleton.mp hx]; exact ⟨_, _, rfl, Or.inr (Or.inr rfl)⟩,
      by rw [countL_cons, hp.c_arg, hp.c_voidZero]; exact Nat.zero_le _⟩

omit hp in
theorem OpCL.cons {x : Node} {xs asg args : List Node} {R1 : (Node × List Node × List Node) × St}
    {R2 : (List Node × List Node × List Node) × St}
    (h1 : OpC p x asg args R1) (h2 : OpCL p xs R1.1.2.1 R1.1.2.2 R2) :
    OpCL p (x :: xs) asg args ((R1.1.1 :: R2.1.1, R2.1.2.1, R2.1.2.2), R2.2) := by
  obtain ⟨a1, p1, a2, a3, a4⟩ := h1
  obtain ⟨b1, p2, b2, b3, b4⟩ := h2
  refine ⟨by simp only [countL_cons]; omega, p1 ++ p2, by rw [b2, a2, List.append_assoc], ?_, ?_⟩
  · intro x hx
    rcases List.mem_append.mp hx with hx | hx
    · exact a3 x hx
    · exact b3 x hx
  · simp only [countL_append, countL_cons]; omega

omit hp in
theorem OpCL.nil (asg args : List Node) (s : St) : OpCL p [] asg args (([], asg, args), s) :=
  ⟨rfl, [], (List.append_nil _).symm, fun _ h => (nomatch h), Nat.zero_le _⟩

theorem replaceElems_cnt (mode : IdentMode) (sp : Span) : ∀ (xs asg args : List Node) (s : St),
    OpCL p xs asg args (replaceElems mode sp xs asg args s)
  | [], asg, args, s => OpCL.nil asg args s
  | x :: xs, asg, args, s => by
    simp only [replaceElems, run_bind, run_pure]
    exact OpCL.cons (replaceElem_cnt hp x mode asg args sp s) (replaceElems_cnt mode sp xs _ _ _)

theorem replaceExpr_cnt (e : Node) (mode : IdentMode) (asg args : List Node) (sp : Span) (k : IdentKind)
    (expand : Bool) (s : St) : OpC p e asg args (replaceExpr e mode asg args sp k expand s) := by
  unfold replaceExpr
  split
  · rename_i elems asp
    simp only [run_bind, run_pure]
    obtain ⟨h1, h2⟩ := replaceElems_cnt hp mode sp elems asg args s
    exact ⟨by simpa only [hp.c_array] using h1, by simpa only [hp.c_array] using h2⟩
  · exact replaceExprNoExpand_cnt hp e mode asg args sp k s

theorem replaceArg_cnt (a : Node) (mode : IdentMode) (asg args : List Node) (sp : Span) (expand : Bool) (s : St) :
    OpC p a asg args (replaceArg a mode asg args sp expand s) := by
  cases a with
  | arg spread e => exact (replaceExpr_cnt hp e mode asg args sp _ expand s).arg hp spread
  | _ => exact OpC.skip ..

theorem replaceArgs_cnt (mode : IdentMode) (sp : Span) (expand : Bool) : ∀ (xs asg args : List Node) (s : St),
    OpCL p xs asg args (replaceArgs mode sp expand xs asg args s)
  | [], asg, args, s => OpCL.nil asg args s
  | x :: xs, asg, args, s => by
    simp only [replaceArgs, run_bind, run_pure]
    exact OpCL.cons (replaceArg_cnt hp x mode asg args sp expand s) (replaceArgs_cnt mode sp expand xs _ _ _)

theorem replaceTplExprs_cnt : ∀ (xs asg args : List Node) (s : St),
    OpCL p xs asg args (replaceTplExprs xs asg args s)
  | [], asg, args, s => OpCL.nil asg args s
  | x :: xs, asg, args, s => by
    simp only [replaceTplExprs, run_bind, run_pure]
    have hx : OpC p x asg args (replaceExpr (tplOperand x) .replace asg args x.span .expr false s) := by
      have h := replaceExpr_cnt hp (tplOperand x) .replace asg args x.span .expr false s
      rwa [OpC, hp.c_tplOperand] at h
    exact OpCL.cons hx (replaceTplExprs_cnt xs _ _ _)

end
end IastModel
