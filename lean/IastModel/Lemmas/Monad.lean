import IastModel.Rewriter.State
/-
  Running the state monad `M` of the model: the `run_*` equations every other file rewrites with, then a small
  weakest-precondition calculus (`Post m s Q`: running `m` from `s` ends in a result and a state related by `Q`;
  `post_mapM'` for lists), then `Forall2`.
-/
namespace IastModel

def Post {α : Type} (m : M α) (s : St) (Q : α → St → Prop) : Prop := Q (m s).1 (m s).2

theorem run_bind {α β : Type} (m : M α) (f : α → M β) (s : St) :
    (m >>= f) s = f (m s).1 (m s).2 := by
  simp only [bind, StateT.bind]
  rfl

theorem run_pure {α : Type} (a : α) (s : St) : (pure a : M α) s = (a, s) := rfl

theorem run_map {α β : Type} (g : α → β) (m : M α) (s : St) :
    (g <$> m) s = (g (m s).1, (m s).2) := by
  simp only [Functor.map, StateT.map]
  rfl

theorem run_modify (f : St → St) (s : St) : (modify f : M Unit) s = ((), f s) := rfl

theorem run_modifyGet {α : Type} (f : St → α × St) (s : St) : (modifyGet f : M α) s = f s := rfl

theorem run_get (s : St) : (get : M St) s = (s, s) := rfl

theorem run_set (s' s : St) : (set s' : M Unit) s = ((), s') := rfl

@[simp] theorem post_pure {α : Type} (a : α) (s : St) (Q : α → St → Prop) :
    Post (pure a : M α) s Q ↔ Q a s := Iff.rfl

@[simp] theorem post_bind {α β : Type} (m : M α) (f : α → M β) (s : St) (Q : β → St → Prop) :
    Post (m >>= f) s Q ↔ Post m s (fun a s' => Post (f a) s' Q) := by
  unfold Post
  rw [run_bind]

theorem Post.mono {α : Type} {m : M α} {s : St} {Q Q' : α → St → Prop}
    (h : Post m s Q) (hq : ∀ a s', Q a s' → Q' a s') : Post m s Q' := hq _ _ h

@[simp] theorem post_get (s : St) (Q : St → St → Prop) : Post (get : M St) s Q ↔ Q s s := Iff.rfl

@[simp] theorem post_modify (f : St → St) (s : St) (Q : Unit → St → Prop) :
    Post (modify f : M Unit) s Q ↔ Q () (f s) := Iff.rfl

@[simp] theorem post_set (s' s : St) (Q : Unit → St → Prop) :
    Post (set s' : M Unit) s Q ↔ Q () s' := Iff.rfl

@[simp] theorem post_modifyGet {α : Type} (f : St → α × St) (s : St) (Q : α → St → Prop) :
    Post (modifyGet f : M α) s Q ↔ Q (f s).1 (f s).2 := Iff.rfl

/-- pointwise relation between two lists of the same length -/
def Forall2 {α β : Type} (R : α → β → Prop) : List α → List β → Prop
  | [], [] => True
  | a :: as, b :: bs => R a b ∧ Forall2 R as bs
  | _, _ => False

theorem Forall2.length_eq {α β : Type} {R : α → β → Prop} :
    ∀ {xs : List α} {ys : List β}, Forall2 R xs ys → xs.length = ys.length
  | [], [], _ => rfl
  | _ :: as, _ :: bs, h => by simp [Forall2.length_eq h.2]
  | [], _ :: _, h => by simp [Forall2] at h
  | _ :: _, [], h => by simp [Forall2] at h

/-- the rule for `mapM'`: an invariant `I` on the state that every call preserves, and a pointwise
    relation `R` between inputs and outputs -/
theorem post_mapM' {α β : Type} (f : α → M β) (I : St → Prop) (R : α → β → Prop)
    (hf : ∀ a s, I s → Post (f a) s (fun b s' => I s' ∧ R a b)) :
    ∀ (xs : List α) (s : St), I s →
      Post (mapM' f xs) s (fun ys s' => I s' ∧ Forall2 R xs ys) := by
  intro xs
  induction xs with
  | nil => intro s hs; simp [mapM', Forall2]; exact hs
  | cons x xs ih =>
    intro s hs
    simp only [mapM', post_bind]
    have h1 := hf x s hs
    refine Post.mono h1 ?_
    intro b s1 ⟨hi1, hr⟩
    have h2 := ih s1 hi1
    refine Post.mono h2 ?_
    intro ys s2 ⟨hi2, hrs⟩
    simp [Forall2]
    exact ⟨hi2, hr, hrs⟩

end IastModel
