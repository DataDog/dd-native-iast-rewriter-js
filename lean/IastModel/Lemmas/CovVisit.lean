import IastModel.Lemmas.CovRecv
import IastModel.Lemmas.ErOc
namespace IastModel
open Node

theorem isBin_props {n : Node} (h : isBinNode n = false) (hl : leaf n = false) : isPlusSum n = false ∧ isLiteralSum n = false := by
  refine ⟨?_, ?_⟩
  · unfold isPlusSum
    split
    · cases h
    · rfl
  · unfold isLiteralSum
    split
    · rw [leaf, Bool.or_eq_false_iff] at hl; exact absurd hl.2 (by simp [Node.isLit])
    · cases h
    · rfl

/-- the `+` transform goes ahead only when some operand is not a sum of literals -/
theorem toDdBinary_some_not_literal (cfg : Config) (l r : Node) (sp : Span) (s : St)
    (hl : isLiteralSum l = true) (hr : isLiteralSum r = true) :
    ∀ e', (toDdBinary cfg (.bin "+" l r sp) s).1 = some e' → False := by
  intro e' he
  have pl : ∀ (e : Node) (mode : IdentMode) (asg args : List Node) (k : IdentKind) (s : St), isLiteralSum e = true →
      replaceExprNoExpand e mode asg args sp k s = ((e, asg, args ++ [exprOrSpread e k]), s) := by
    intro e mode asg args k s h
    unfold replaceExprNoExpand
    split
    · rfl
    · cases h
    · rename_i op a b bsp
      have hop : op = "+" := by
        rw [isLiteralSum, Bool.and_eq_true, Bool.and_eq_true] at h
        exact eq_of_beq h.1.1
      subst hop
      rw [if_neg (by decide), if_pos h]; rfl
    · rename_i h1 h2 h3
      unfold isLiteralSum at h
      split at h
      · exact absurd rfl (h1 _ _ _ _)
      · exact absurd rfl (h3 _ _ _ _)
      · cases h
  simp only [toDdBinary, run_bind, replaceExpr_false, pl l _ _ _ _ _ hl, pl r _ _ _ _ _ hr] at he
  simp [mustReplaceBinary, exprOrSpread, argExpr, hl, hr, run_pure] at he

/-- what the operation visitor guarantees for the site `(d, sp0)` on a source node `n` and its result `n'` -/
def Cov (cfg : Config) (d : String) (sp0 : Span) (n n' : Node) : Prop :=
  R cfg d sp0 n ≤ cq (qAt d sp0) n' ∧ SK cfg n n'

theorem Cov.list {cfg : Config} {d : String} {sp0 : Span} {ks ks' : List Node} (h : Forall2 (Cov cfg d sp0) ks ks') :
    RL cfg d sp0 ks ≤ cqL (qAt d sp0) ks' :=
  Forall2.sum_le (fun _ _ h => h.1) h

theorem Cov.same {cfg : Config} {d : String} {sp0 : Span} {n : Node} (h1 : reqOwn cfg d sp0 n = 0)
    (h2 : visitedKids cfg n = []) (h3 : isPlusSum n = false) : Cov cfg d sp0 n n :=
  ⟨by rw [R_eq, h1, h2]; exact Nat.zero_le _, SK.refl cfg n (by rw [h3]; intro h; cases h)⟩

theorem reqOwn_rebuilt {cfg : Config} {d : String} {sp0 : Span} {n : Node} (h : rebuilt cfg n = true) :
    reqOwn cfg d sp0 n = 0 := by
  unfold reqOwn
  split
  · rename_i op l r sp
    have h : (cfg.plusEnabled && op == "+") = false := (Bool.not_eq_true' _).mp h
    rw [if_neg]
    intro hc
    simp only [Bool.and_eq_true] at hc
    rw [hc.1.1.1.1, hc.1.1.1.2] at h; cases h
  · have h : cfg.tplEnabled = false := (Bool.not_eq_true' _).mp h
    rw [h]; rfl
  · rename_i op l r sp
    have h : (cfg.plusEnabled && op == "+=") = false := (Bool.not_eq_true' _).mp h
    rw [if_neg]
    intro hc
    simp only [Bool.and_eq_true] at hc
    rw [hc.1.1.1.1, hc.1.1.1.2] at h; cases h
  · cases h
  · rfl

theorem visitedKids_rebuilt {cfg : Config} {n : Node} (h : rebuilt cfg n = true) : visitedKids cfg n = n.kids := by
  unfold visitedKids
  split
  · cases h
  · cases h
  · cases h
  · cases h
  · rename_i op a sp
    have h : isDelete op = false := (Bool.not_eq_true' _).mp h
    rw [h]; rfl
  · have h : cfg.tplEnabled = false := (Bool.not_eq_true' _).mp h
    rw [h]; rfl
  · rfl

theorem cqL_kids_le (q : Node → Bool) (n : Node) : cqL q n.kids ≤ cq q n := by
  rw [cq_eq q n]; exact Nat.le_add_left _ _

/-- a required occurrence is counted for the site only if the hook's name and span are the site's -/
theorem site_le (x a b : Bool) : (if (x && a && b) = true then 1 else 0) ≤ (if (a && b) = true then 1 else 0) := by
  cases x
  · rw [Bool.false_and, Bool.false_and, if_neg Bool.false_ne_true]; exact Nat.zero_le _
  · rw [Bool.true_and]; exact Nat.le_refl _

theorem Cov.rebuilt {cfg : Config} {d : String} {sp0 : Span} {n : Node} {ks' : List Node} (h : rebuilt cfg n = true)
    (hk : Forall2 (Cov cfg d sp0) n.kids ks') : Cov cfg d sp0 n (n.withKids ks') := by
  refine ⟨?_, ?_⟩
  · rw [R_eq, reqOwn_rebuilt h, visitedKids_rebuilt h, Nat.zero_add]
    have := cqL_kids_le (qAt d sp0) (n.withKids ks')
    rw [Node.kids_withKids n ks' (Forall2.length_eq hk).symm] at this
    exact Nat.le_trans (Cov.list hk) this
  · by_cases hb : isBinNode n = true
    · unfold isBinNode at hb
      split at hb
      · rename_i op l r sp
        obtain ⟨l', _, rfl, hl, hk⟩ := hk.cons_inv
        obtain ⟨r', _, rfl, hr, hk⟩ := hk.cons_inv
        cases hk.nil_inv
        have h : (cfg.plusEnabled && op == "+") = false := (Bool.not_eq_true' _).mp h
        refine ⟨?_, fun hpe hp => ?_⟩
        · show isLiteralSum (.bin op l' r' sp) = _
          simp only [isLiteralSum, hl.2.1, hr.2.1]
        · have hp : (op == "+") = true := (isPlusSum_bin op l' r' sp).symm.trans hp
          rw [hpe, hp] at h; cases h
      · cases hb
    · exact SK.of_not_bin n ks' (fun op l r sp e => hb (e ▸ rfl))

theorem Cov.bin {cfg : Config} {d : String} {sp0 : Span} {l r l' r' : Node} (sp : Span) (s : St) (hpe : cfg.plusEnabled = true)
    (hl : Cov cfg d sp0 l l') (hr : Cov cfg d sp0 r r') :
    Cov cfg d sp0 (.bin "+" l r sp) ((toDdBinary cfg (.bin "+" l' r' sp) s).1.getD (.bin "+" l' r' sp)) := by
  have hR : R cfg d sp0 (.bin "+" l r sp) = reqOwn cfg d sp0 (.bin "+" l r sp) + (R cfg d sp0 l + (R cfg d sp0 r + 0)) := R_eq ..
  have hl1 := hl.1
  have hr1 := hr.1
  cases hres : (toDdBinary cfg (.bin "+" l' r' sp) s).1 with
  | none =>
    obtain ⟨a, b⟩ := toDdBinary_none cfg l' r' sp s hres (hl.2.nlSum hpe) (hr.2.nlSum hpe)
    rw [Option.getD_none]
    refine ⟨?_, ?_, fun _ _ => ?_⟩
    · have : reqOwn cfg d sp0 (.bin "+" l r sp) = 0 := by
        rw [hl.2.1] at a; rw [hr.2.1] at b; simp [reqOwn, a, b]
      rw [hR, this, cq_bin, Nat.zero_add]
      exact Nat.add_le_add hl1 (Nat.add_le_add_right hr1 0)
    · simp only [isLiteralSum, hl.2.1, hr.2.1]
    · simp only [isLiteralSum, a, b]; rfl
  | some e' =>
    rw [Option.getD_some]
    obtain ⟨first, args, asg, he', _⟩ := toDdBinary_mirror cfg l' r' sp s e' hres
    have hq := toDdBinary_Q (qAt d sp0) cfg "+" l' r' sp s e' hres
    rw [lastOf_eq_of_ddParen he', qAt_ddCall] at hq
    refine ⟨?_, ?_⟩
    · rw [hR, hq]
      exact Nat.add_le_add (site_le _ (decide (cfg.plusName = d)) (decide (sp = sp0)))
        (Nat.add_le_add hl1 (Nat.add_le_add_right hr1 0))
    · rw [he']
      obtain ⟨k1, k2⟩ := isPlusSum_ddParen first args asg cfg.plusName sp
      refine ⟨?_, by intro _ h; rw [k1] at h; cases h⟩
      rw [k2]
      -- the `+` was instrumented, so it is not a sum of literals
      cases hls : isLiteralSum (.bin "+" l r sp)
      · rfl
      · exfalso
        simp only [isLiteralSum, beq_self_eq_true, Bool.true_and, Bool.and_eq_true] at hls
        exact toDdBinary_some_not_literal cfg l' r' sp s (by rw [hl.2.1]; exact hls.1) (by rw [hr.2.1]; exact hls.2) e' hres

theorem Cov.assign {cfg : Config} {d : String} {sp0 : Span} {l r l' r' : Node} (sp : Span) (s : St)
    (hts : tshape l' = true) (hl : Cov cfg d sp0 l l') (hr : Cov cfg d sp0 r r') :
    Cov cfg d sp0 (.assign "+=" l r sp) ((toDdAssign cfg (.assign "+=" l' r' sp) s).1.getD (.assign "+=" l' r' sp)) := by
  have hR : R cfg d sp0 (.assign "+=" l r sp) =
      reqOwn cfg d sp0 (.assign "+=" l r sp) + (R cfg d sp0 l + (R cfg d sp0 r + 0)) := R_eq ..
  have hl1 := hl.1
  have hr1 := hr.1
  have hk : cq (qAt d sp0) l' + (cq (qAt d sp0) r' + 0) ≤ cq (qAt d sp0) (.assign "+=" l' r' sp) :=
    cqL_kids_le (qAt d sp0) (.assign "+=" l' r' sp)
  have h4 := toDdAssign_some cfg "+=" l' r' sp s hts (tshape_notPattern hts)
  cases hres : (toDdAssign cfg (.assign "+=" l' r' sp) s).1 with
  | none => rw [hres] at h4; cases h4
  | some e' =>
    rw [Option.getD_some]
    obtain ⟨target, first, args, asg, he', _⟩ := toDdAssign_mirror cfg "+=" l' r' sp s e' hres
    have hq := toDdAssign_Q (qAt d sp0) cfg "+=" l' r' sp s hts e' hres
    rw [he', siteOf_assign, lastOf_ddParen, qAt_ddCall, ← he'] at hq
    refine ⟨?_, he' ▸ ⟨rfl, fun _ h => by cases h⟩⟩
    rw [hR, hq]
    exact Nat.add_le_add (site_le _ (decide (cfg.plusName = d)) (decide (sp = sp0)))
      (Nat.le_trans (Nat.add_le_add hl1 (Nat.add_le_add_right hr1 0)) hk)

theorem Cov.tpl {cfg : Config} {d : String} {sp0 : Span} {es qs ks' : List Node} (sp : Span) (s : St)
    (hte : cfg.tplEnabled = true) (hc : (!es.isEmpty && es.all (fun e => !e.isLit)) = true)
    (hk : Forall2 (Cov cfg d sp0) (es ++ qs) ks') :
    Cov cfg d sp0 (.tpl es qs sp) ((toDdTpl cfg (.tpl (ks'.take es.length) (ks'.drop es.length) sp) s).1.getD
      (.tpl (ks'.take es.length) (ks'.drop es.length) sp)) := by
  have hR : R cfg d sp0 (.tpl es qs sp) = reqOwn cfg d sp0 (.tpl es qs sp) + RL cfg d sp0 (es ++ qs) := by
    rw [R_eq, visitedKids, hte, hc]; rfl
  have hk1 := Cov.list hk
  have hk2 := cqL_kids_le (qAt d sp0) ((Node.tpl es qs sp).withKids ks')
  rw [Node.kids_withKids (.tpl es qs sp) ks' (Forall2.length_eq hk).symm] at hk2
  have hsome : (toDdTpl cfg (.tpl (ks'.take es.length) (ks'.drop es.length) sp) s).1.isSome = true := by
    simp only [toDdTpl, run_bind, run_pure, Option.isSome_some]
  cases hres : (toDdTpl cfg (.tpl (ks'.take es.length) (ks'.drop es.length) sp) s).1 with
  | none => rw [hres] at hsome; cases hsome
  | some e' =>
    rw [Option.getD_some]
    obtain ⟨first, args, asg, he', _⟩ := toDdTpl_mirror cfg _ _ sp s e' hres
    have hq := toDdTpl_Q (qAt d sp0) cfg _ _ sp s e' hres
    rw [lastOf_eq_of_ddParen he', qAt_ddCall] at hq
    obtain ⟨k1, k2⟩ := isPlusSum_ddParen first args asg cfg.tplName sp
    refine ⟨?_, he' ▸ ⟨k2, fun _ h => by rw [k1] at h; cases h⟩⟩
    have : reqOwn cfg d sp0 (.tpl es qs sp) ≤ _ := site_le _ (decide (cfg.tplName = d)) (decide (sp = sp0))
    rw [hR, hq]
    exact Nat.add_le_add this (Nat.le_trans hk1 hk2)

/-- what is required of a call: nothing, or it is `recv.m(..)` with `m` configured and `recv` of a claimed kind -/
theorem reqOwn_call (cfg : Config) (d : String) (sp0 : Span) (c : Node) (as : List Node) (sp : Span) :
    reqOwn cfg d sp0 (.call c as sp) = 0 ∨
      ∃ recv m msp cmsp csi, c = .member recv (.pname m msp) cmsp ∧ cfg.get m = some csi ∧ isCallOrApply m = false ∧
        recvOK cfg m recv = true ∧
        reqOwn cfg d sp0 (.call c as sp) = (if (decide (csi.dst = d) && decide (sp = sp0)) = true then 1 else 0) := by
  by_cases hm : ∃ recv m msp cmsp, c = .member recv (.pname m msp) cmsp
  · obtain ⟨recv, m, msp, cmsp, rfl⟩ := hm
    simp only [reqOwn]
    cases hgm : cfg.get m with
    | none => exact Or.inl rfl
    | some csi =>
      by_cases hca : isCallOrApply m = true
      · left; rw [hca]; rfl
      · have hca : isCallOrApply m = false := by simpa using hca
        by_cases hro : recvOK cfg m recv = true
        · exact Or.inr ⟨recv, m, msp, cmsp, csi, rfl, hgm, hca, hro, by rw [hca, hro]; rfl⟩
        · left; simp only; rw [if_neg]; intro h; simp only [Bool.and_eq_true] at h; exact hro h.1.1.2
  · left
    unfold reqOwn
    split
    · rename_i h; cases h
    · rename_i h; cases h
    · rename_i h; cases h
    · rename_i h; injection h with h; exact absurd ⟨_, _, _, _, h⟩ hm
    · rfl

/-- the callee of a call that requires a hook is, after the visit, still a callee `to_dd_call_expr` instruments -/
theorem callee_visited {cfg : Config} {m : String} {recv : Node} {msp cmsp : Span} {c' : Node} {as' : List Node}
    {sp : Span} (s : St) {csi : CsiMethod} (hgm : cfg.get m = some csi) (hca : isCallOrApply m = false)
    (hro : recvOK cfg m recv = true) (hvis : ∃ f0 s0, c' = (visit cfg f0 false (.member recv (.pname m msp) cmsp) s0).1) :
    isNonExprCallee c' = false ∧ (toDdCall cfg (.call c' as' sp) s).1.isSome = true ∧
      ∀ e' tag, (toDdCall cfg (.call c' as' sp) s).1 = some (e', tag) → ∃ first args asg, e' = ddParen first args asg csi.dst sp := by
  obtain ⟨f0, s0, rfl⟩ := hvis
  obtain ⟨recv', hrv, hcv⟩ := visit_member_recv cfg m recv msp cmsp hro f0 false s0
  obtain ⟨first, args, asg, h⟩ := toDdCall_covered cfg recv' m msp cmsp as' sp s csi hgm hca hcv
  rw [hrv, h]
  exact ⟨rfl, rfl, fun e' tag he => ⟨first, args, asg, by cases he; rfl⟩⟩

theorem Cov.callKeep {cfg : Config} {d : String} {sp0 : Span} {c c' : Node} {as as' : List Node} (sp : Span) (s : St)
    (hc : Cov cfg d sp0 c c') (has : Forall2 (Cov cfg d sp0) as as') (hh : hookName? (.call c' as' sp) = none)
    (hvis : ∃ f0 s0, c' = (visit cfg f0 false c s0).1)
    (hk : isNonExprCallee c' = true ∨ (toDdCall cfg (.call c' as' sp) s).1 = none) :
    Cov cfg d sp0 (.call c as sp) (.call c' as' sp) := by
  refine ⟨?_, rfl, fun _ h => by cases h⟩
  have hR : R cfg d sp0 (.call c as sp) = reqOwn cfg d sp0 (.call c as sp) + (R cfg d sp0 c + RL cfg d sp0 as) := R_eq ..
  rw [hR, cq_call_user _ _ _ _ hh]
  rcases reqOwn_call cfg d sp0 c as sp with hr | ⟨recv, m, msp, cmsp, csi, rfl, hgm, hca, hro, _⟩
  · rw [hr, Nat.zero_add]; exact Nat.add_le_add hc.1 (Cov.list has)
  · obtain ⟨h1, h2, _⟩ := callee_visited (as' := as') (sp := sp) s hgm hca hro hvis
    rcases hk with hk | hk
    · rw [h1] at hk; cases hk
    · rw [hk] at h2; cases h2

theorem Cov.callSome {cfg : Config} {d : String} {sp0 : Span} {c c' : Node} {as as' : List Node} (sp : Span) (s : St)
    {e : Node} {tag : String}
    (hc : Cov cfg d sp0 c c') (has : Forall2 (Cov cfg d sp0) as as') (hh : hookName? (.call c' as' sp) = none)
    (hvis : ∃ f0 s0, c' = (visit cfg f0 false c s0).1)
    (he : (toDdCall cfg (.call c' as' sp) s).1 = some (e, tag)) :
    Cov cfg d sp0 (.call c as sp) e := by
  obtain ⟨first, args, asg, name, sp', he', _⟩ := toDdCall_mirror cfg c' as' sp s e tag he
  obtain ⟨k1, k2⟩ := isPlusSum_ddParen first args asg name sp'
  refine ⟨?_, he' ▸ ⟨k2, fun _ h => by rw [k1] at h; cases h⟩⟩
  have hR : R cfg d sp0 (.call c as sp) = reqOwn cfg d sp0 (.call c as sp) + (R cfg d sp0 c + RL cfg d sp0 as) := R_eq ..
  obtain ⟨_, _, hq⟩ := toDdCall_Q (qAt d sp0) cfg c' as' sp s e tag he
  have h1 := hc.1
  have h2 := Cov.list has
  rw [hR, hq]
  rcases reqOwn_call cfg d sp0 c as sp with hr | ⟨recv, m, msp, cmsp, csi, rfl, hgm, hca, hro, hr⟩
  · rw [hr, Nat.zero_add, Nat.add_assoc]
    exact Nat.le_trans (Nat.add_le_add h1 h2) (Nat.le_add_left _ _)
  · obtain ⟨_, _, h3⟩ := callee_visited (as' := as') (sp := sp) s hgm hca hro hvis
    obtain ⟨first2, args2, asg2, he2⟩ := h3 e tag he
    rw [hr, he2, lastOf_ddParen, qAt_ddCall, Nat.add_assoc]
    exact Nat.add_le_add (Nat.le_refl _) (Nat.add_le_add h1 h2)

theorem Cov.optChain {cfg : Config} {d : String} {sp0 : Span} (o : Bool) (b : Node) (sp : Span) (f0 : Nat) (s : St)
    {ks' : List Node}
    (hk : Forall2 (Cov cfg d sp0)
      ((toDdCond cfg f0 (.optChain o b sp) s).1.2.getD (toDdCond cfg f0 (.optChain o b sp) s).1.1).kids ks') :
    Cov cfg d sp0 (.optChain o b sp)
      (((toDdCond cfg f0 (.optChain o b sp) s).1.2.getD (toDdCond cfg f0 (.optChain o b sp) s).1.1).withKids ks') := by
  refine ⟨?_, ?_⟩
  · rw [R_eq]
    by_cases hno : noOpt cfg (.optChain o b sp) = true
    · -- a chain that is not lowered is handed back as it is, and walked through
      have hid := (toDdCond_id cfg f0 (.optChain o b sp) s hno).1
      rw [hid] at hk ⊢
      have hk2 := cqL_kids_le (qAt d sp0) ((Node.optChain o b sp).withKids ks')
      rw [Node.kids_withKids (.optChain o b sp) ks' (Forall2.length_eq hk).symm] at hk2
      rw [visitedKids, if_pos hno, show reqOwn cfg d sp0 (.optChain o b sp) = 0 from rfl, Nat.zero_add]
      exact Nat.le_trans (Cov.list hk) hk2
    · rw [visitedKids, if_neg hno]; exact Nat.zero_le _
  · have hl := toDdCond_leaf cfg f0 (.optChain o b sp) s rfl
    have hn := toDdCond_nbin cfg f0 (.optChain o b sp) s rfl
    generalize toDdCond cfg f0 (.optChain o b sp) s = C at hl hn
    obtain ⟨⟨e', res⟩, s1⟩ := C
    have h1 : isBinNode (res.getD e') = false := by
      cases res with
      | none => exact hn.1
      | some r => exact hn.2 r rfl
    have h2 : leaf (res.getD e') = false := by
      cases res with
      | none => exact hl.1
      | some r => exact hl.2 r rfl
    obtain ⟨k1, k2⟩ := isLiteralSum_withKids_other (res.getD e') ks' (fun op l r sp h => by rw [h] at h1; cases h1)
    exact ⟨k1.trans (isBin_props h1 h2).2, fun _ h => by rw [k2] at h; cases h⟩

/-- **the operation visitor instruments every required `+` / `+=` / template / `recv.m(..)` occurrence it reaches**, unless it
    runs out of fuel: for the site `(d, sp0)`, at least as many hook calls with that name and span come
    back as the specification requires in the visited positions of `n` -/
theorem visit_cover (cfg : Config) (ok : String → Bool) (hcfg : CfgOk ok cfg) (d : String) (sp0 : Span) :
    ∀ (f : Nat) (root : Bool) (n : Node) (s : St), ns n = 0 → targetsOk n = true → StOk s →
      (visit cfg f root n s).2.fuelOut = false →
      R cfg d sp0 n ≤ cq (qAt d sp0) (visit cfg f root n s).1 ∧ SK cfg n (visit cfg f root n s).1 :=
  visit_ind cfg ok hcfg (P := Cov cfg d sp0)
    (fun _ _ => Cov.same rfl rfl rfl)
    (fun _ _ => Cov.same rfl rfl rfl)
    (fun ps b a sp => by
      obtain ⟨b', h⟩ := toDdArrow_arrow ps b a sp
      rw [h]
      exact ⟨by rw [R_eq]; exact Nat.zero_le _, rfl, fun _ h => by cases h⟩)
    (fun op a sp hd => Cov.same rfl (by rw [visitedKids, if_pos hd]) rfl)
    (fun es qs sp hte hc => Cov.same (by rw [reqOwn, hte, Bool.true_and, hc]; rfl) (by rw [visitedKids, hte, hc]; rfl) rfl)
    (fun _ _ => Cov.rebuilt)
    (fun _ _ sp _ _ s hpe => Cov.bin sp s hpe)
    (fun _ _ sp _ _ s _ => Cov.assign sp s)
    (fun _ _ sp _ s => Cov.tpl sp s)
    (fun _ _ sp _ _ s => Cov.callKeep sp s)
    (fun _ _ sp _ _ s _ _ => Cov.callSome sp s)
    (fun o b sp f0 s _ => Cov.optChain o b sp f0 s)

end IastModel
