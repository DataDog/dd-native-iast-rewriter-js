import IastModel.Lemmas.ErVisitGen
namespace IastModel
open Node

/-- `e` is a hook call (with its hoisted operands) carrying the position `sp` -/
def IsDdS (e : Node) (sp : Span) : Prop := ∃ x args asg m, e = ddParen x args asg m sp

theorem ddParen_span (x : Node) (args asg : List Node) (m : String) (sp : Span) : (ddParen x args asg m sp).span = sp := by
  unfold ddParen
  simp only
  split <;> rfl

theorem IsDdS.span {e : Node} {sp : Span} (h : IsDdS e sp) : e.span = sp := by
  obtain ⟨x, args, asg, m, rfl⟩ := h
  exact ddParen_span _ _ _ _ _

/-- what the visitor theorem needs to know about the shape of a hook call: it is not an identifier,
    not an assignment to a temporary, and (being a call or a parenthesised sequence) has no parts the
    later transforms take apart -/
theorem IsDdS.shape {e : Node} {sp : Span} (h : IsDdS e sp) (lo hi : Nat) (n : Node) :
    Deep lo hi e n ∧ isTempAssign e = false ∧ (e.isIdent = true → e = n) := by
  obtain ⟨x, args, asg, m, rfl⟩ := h
  unfold ddParen
  simp only
  split
  · exact ⟨by simp [ddCall, Deep], rfl, by simp [ddCall, Node.isIdent]⟩
  · exact ⟨by simp [Deep, isSplittableInner], rfl, by simp [Node.isIdent]⟩

theorem toDdBinary_isDdS (cfg : Config) (op : String) (l r : Node) (sp : Span) (s : St) (e1 : Node)
    (h : (toDdBinary cfg (.bin op l r sp) s).1 = some e1) : IsDdS e1 sp := by
  simp only [toDdBinary, run_bind] at h
  split at h
  · simp only [run_pure] at h
    cases h
    exact ⟨_, _, _, _, rfl⟩
  · simp [run_pure] at h

theorem toDdTpl_isDdS (cfg : Config) (es qs : List Node) (sp : Span) (s : St) (e1 : Node)
    (h : (toDdTpl cfg (.tpl es qs sp) s).1 = some e1) : IsDdS e1 sp := by
  simp only [toDdTpl, run_bind, run_pure] at h
  cases h
  exact ⟨_, _, _, _, rfl⟩

theorem replaceCallWithMember_isDdS (cfg : Config) (expr : Node) (method : String) (msp : Span)
    (callee : Node) (cargs : List Node) (csp : Span) (mo : Option Node) (ca : Option String) (s : St)
    (r : Node) (t : String)
    (h : (replaceCallWithMember cfg expr method msp callee cargs csp mo ca s).1 = some (r, t)) : IsDdS r csp := by
  unfold replaceCallWithMember at h
  cases hg : cfg.get method with
  | none => simp [hg, run_pure] at h
  | some csi =>
    simp only [hg, run_bind, run_pure] at h
    cases h
    exact ⟨_, _, _, _, rfl⟩

theorem replaceCallSpreadWithMember_isDdS (cfg : Config) (method : String)
    (callee : Node) (cargs : List Node) (csp : Span) (m : Node) (ca : String) (s : St)
    (r : Node) (t : String)
    (h : (replaceCallSpreadWithMember cfg method callee cargs csp m ca s).1 = some (r, t)) : IsDdS r csp := by
  unfold replaceCallSpreadWithMember at h
  cases hg : cfg.get method with
  | none => simp [hg, run_pure] at h
  | some csi =>
    simp only [hg, run_bind] at h
    generalize hX : (getIdentUsed m [] [] csp IdentKind.expr s) = X at h
    obtain ⟨⟨id, asg1, args1⟩, s1⟩ := X
    cases id with
    | none => simp [run_pure] at h
    | some n =>
      simp only [run_bind, run_pure] at h
      cases h
      exact ⟨_, _, _, _, rfl⟩

theorem replaceCallWithoutCallee_isDdS (cfg : Config) (name : Name) (isp : Span) (callee : Node)
    (cargs : List Node) (csp : Span) (s : St) (r : Node) (t : String)
    (h : (replaceCallWithoutCallee cfg name isp callee cargs csp s).1 = some (r, t)) : IsDdS r csp := by
  unfold replaceCallWithoutCallee at h
  cases name with
  | temp n => simp [run_pure] at h
  | user method =>
    cases hg : cfg.get method with
    | none => simp [hg, run_pure] at h
    | some csi =>
      simp only [hg] at h
      by_cases ha : csi.allowedWithoutCallee = true
      · simp only [ha, if_true, run_bind, run_pure] at h
        cases h
        exact ⟨_, _, _, _, rfl⟩
      · simp [ha, run_pure] at h

theorem toDdCall_isDdS (cfg : Config) (c : Node) (as : List Node) (csp : Span) (s : St) (r : Node) (t : String) :
    (toDdCall cfg (.call c as csp) s).1 = some (r, t) → IsDdS r csp := by
  refine toDdCall_cases (P := fun m => (m s).1 = some (r, t) → IsDdS r csp) cfg c as csp nofun ?_ ?_ ?_
  · intro obj m msp cs _
    exact replaceCallWithMember_isDdS _ _ _ _ _ _ _ _ _ _ _ _
  · intro o p sp m msp cs _ _
    exact replacePrototype_cases (P := fun m => (m s).1 = some (r, t) → IsDdS r csp) cfg as csp c _ m nofun
      (fun _ _ _ _ _ _ _ => replaceCallSpreadWithMember_isDdS _ _ _ _ _ _ _ _ _ _)
      (fun _ _ _ _ _ _ _ => replaceCallWithMember_isDdS _ _ _ _ _ _ _ _ _ _ _ _)
  · intro name isp _
    exact replaceCallWithoutCallee_isDdS _ _ _ _ _ _ _ _ _

end IastModel
