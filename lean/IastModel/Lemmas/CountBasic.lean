import IastModel.Lemmas.Tree
/-
  `Node.count p` for an arbitrary predicate `p`: its equation at every constructor.
-/
namespace IastModel
open Node

def countL (p : Node → Bool) (l : List Node) : Nat := (l.map (Node.count p)).sum

section
variable (p : Node → Bool)

@[simp] theorem countL_nil : countL p [] = 0 := rfl
@[simp] theorem countL_cons (x : Node) (xs : List Node) : countL p (x :: xs) = count p x + countL p xs := by
  simp [countL]
@[simp] theorem countL_append (xs ys : List Node) : countL p (xs ++ ys) = countL p xs + countL p ys := by
  simp [countL, List.sum_append]

theorem count_eq' (n : Node) : count p n = (if p n then 1 else 0) + countL p n.kids := Node.count_eq p n

theorem count_of_false {n : Node} (h : p n = false) : count p n = countL p n.kids := by
  rw [count_eq', h]; simp

theorem count_withKids (n : Node) (ks : List Node) (hl : ks.length = n.kids.length) :
    count p (n.withKids ks) = (if p (n.withKids ks) then 1 else 0) + countL p ks := by
  rw [count_eq', Node.kids_withKids n ks hl]

theorem count_lit (k v r : String) (sp : Span) : count p (.lit k v r sp) = if p (.lit k v r sp) then 1 else 0 :=
  count_eq' p (.lit k v r sp)
theorem count_ident (n : Name) (sp : Span) : count p (.ident n sp) = if p (.ident n sp) then 1 else 0 :=
  count_eq' p (.ident n sp)
theorem count_pname (n : String) (sp : Span) : count p (.pname n sp) = if p (.pname n sp) then 1 else 0 :=
  count_eq' p (.pname n sp)
theorem count_atom (s : String) : count p (.atom s) = if p (.atom s) then 1 else 0 :=
  count_eq' p (.atom s)
theorem count_bin (op : String) (l r : Node) (sp : Span) :
    count p (.bin op l r sp) = (if p (.bin op l r sp) then 1 else 0) + (count p l + count p r) :=
  count_eq' p (.bin op l r sp)
theorem count_assign (op : String) (l r : Node) (sp : Span) :
    count p (.assign op l r sp) = (if p (.assign op l r sp) then 1 else 0) + (count p l + count p r) :=
  count_eq' p (.assign op l r sp)
theorem count_member (o q : Node) (sp : Span) :
    count p (.member o q sp) = (if p (.member o q sp) then 1 else 0) + (count p o + count p q) :=
  count_eq' p (.member o q sp)
theorem count_call (c : Node) (as : List Node) (sp : Span) :
    count p (.call c as sp) = (if p (.call c as sp) then 1 else 0) + (count p c + countL p as) :=
  count_eq' p (.call c as sp)
theorem count_optCall (c : Node) (as : List Node) (sp : Span) :
    count p (.optCall c as sp) = (if p (.optCall c as sp) then 1 else 0) + (count p c + countL p as) :=
  count_eq' p (.optCall c as sp)
theorem count_arg (s : Option Span) (e : Node) :
    count p (.arg s e) = (if p (.arg s e) then 1 else 0) + count p e :=
  count_eq' p (.arg s e)
theorem count_paren (e : Node) (sp : Span) :
    count p (.paren e sp) = (if p (.paren e sp) then 1 else 0) + count p e :=
  count_eq' p (.paren e sp)
theorem count_optChain (o : Bool) (b : Node) (sp : Span) :
    count p (.optChain o b sp) = (if p (.optChain o b sp) then 1 else 0) + count p b :=
  count_eq' p (.optChain o b sp)
theorem count_unary (op : String) (a : Node) (sp : Span) :
    count p (.unary op a sp) = (if p (.unary op a sp) then 1 else 0) + count p a :=
  count_eq' p (.unary op a sp)
theorem count_seq (es : List Node) (sp : Span) :
    count p (.seq es sp) = (if p (.seq es sp) then 1 else 0) + countL p es :=
  count_eq' p (.seq es sp)
theorem count_array (es : List Node) (sp : Span) :
    count p (.array es sp) = (if p (.array es sp) then 1 else 0) + countL p es :=
  count_eq' p (.array es sp)
theorem count_block (ss : List Node) (sp : Span) :
    count p (.block ss sp) = (if p (.block ss sp) then 1 else 0) + countL p ss :=
  count_eq' p (.block ss sp)
theorem count_arr (xs : List Node) : count p (.arr xs) = (if p (.arr xs) then 1 else 0) + countL p xs :=
  count_eq' p (.arr xs)
theorem count_other (k : String) (sp : Span) (ns : List String) (vs : List Node) :
    count p (.other k sp ns vs) = (if p (.other k sp ns vs) then 1 else 0) + countL p vs :=
  count_eq' p (.other k sp ns vs)
theorem count_tpl (es qs : List Node) (sp : Span) :
    count p (.tpl es qs sp) = (if p (.tpl es qs sp) then 1 else 0) + (countL p es + countL p qs) := by
  rw [count_eq']; simp [kids]
theorem count_cond (t c a : Node) (sp : Span) :
    count p (.cond t c a sp) = (if p (.cond t c a sp) then 1 else 0) + (count p t + count p c + count p a) :=
  (count_eq' p _).trans (congrArg _ (Nat.add_assoc _ _ _).symm)
theorem count_ifStmt (t c a : Node) (sp : Span) :
    count p (.ifStmt t c a sp) = (if p (.ifStmt t c a sp) then 1 else 0) + (count p t + count p c + count p a) :=
  (count_eq' p _).trans (congrArg _ (Nat.add_assoc _ _ _).symm)
theorem count_exprStmt (e : Node) (sp : Span) :
    count p (.exprStmt e sp) = (if p (.exprStmt e sp) then 1 else 0) + count p e :=
  count_eq' p (.exprStmt e sp)
theorem count_arrow (ps : List Node) (b : Node) (a : String) (sp : Span) :
    count p (.arrow ps b a sp) = (if p (.arrow ps b a sp) then 1 else 0) + (countL p ps + count p b) := by
  rw [count_eq']; simp [kids]

theorem countL_eq_zero : ∀ {l : List Node}, countL p l = 0 → ∀ k ∈ l, count p k = 0
  | _ :: _, h, k, hk => by
    rw [countL_cons] at h
    rcases List.mem_cons.mp hk with rfl | hk
    · exact Nat.eq_zero_of_add_eq_zero_right h
    · exact countL_eq_zero (Nat.eq_zero_of_add_eq_zero_left h) k hk

end

end IastModel
