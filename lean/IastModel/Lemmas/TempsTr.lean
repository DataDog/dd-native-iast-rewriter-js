import IastModel.Lemmas.TempsOp
namespace IastModel
open Node

theorem tgood_ddCall (σ) (e : Node) (args : List Node) (m : String) (sp : Span) :
    tgood σ (ddCall e args m sp) = (tgood σ e && tgoodL σ args) := by
  simp [ddCall, ddCallee]

theorem tgood_ddParen (σ) (e : Node) (args asg : List Node) (m : String) (sp : Span) :
    tgood σ (ddParen e args asg m sp) = (tgood σ e && tgoodL σ args && tgoodL σ asg) := by
  unfold ddParen
  split
  · rename_i h; have : asg = [] := by simpa using h
    subst this; simp [tgood_ddCall]
  · simp [tgood_ddCall, Bool.and_comm]

def TrT (R : Option Node × St) (s : St) : Prop :=
  IdSub s R.2 ∧ ∀ e', R.1 = some e' → tgood R.2.idents e' = true

def TrT2 (R : Option (Node × String) × St) (s : St) : Prop :=
  IdSub s R.2 ∧ ∀ e' tag, R.1 = some (e', tag) → tgood R.2.idents e' = true

theorem trT_none {s s' : St} (hi : IdSub s s') : TrT ((none : Option Node), s') s := ⟨hi, nofun⟩

theorem trT_some {s s' : St} (hi : IdSub s s') {e : Node} (he : tgood s'.idents e = true) : TrT (some e, s') s :=
  ⟨hi, fun _ h => Option.some.inj h ▸ he⟩

theorem trT2_none (s : St) : TrT2 ((none : Option (Node × String)), s) s := ⟨IdSub.refl s, nofun⟩

/-- every call transform ends by wrapping the rebuilt call, the arguments and the hoisted assignments -/
theorem trT2_ddParen {s s' : St} (hi : IdSub s s') {e : Node} {args asg : List Node} (he : tgood s'.idents e = true)
    (hg : tgoodL s'.idents args = true) (ha : tgoodL s'.idents asg = true) (m tag : String) (sp : Span) :
    TrT2 (some (ddParen e args asg m sp, tag), s') s := by
  refine ⟨hi, fun e' _ h => ?_⟩
  rw [← (Prod.mk.inj (Option.some.inj h)).1, tgood_ddParen, he, hg, ha]; rfl

theorem toDdBinary_T (cfg : Config) (e : Node) (s : St) (h : tgood s.idents e = true) : TrT (toDdBinary cfg e s) s := by
  unfold toDdBinary
  split
  · rename_i op l r sp
    rw [tgood_bin, Bool.and_eq_true] at h
    simp only [run_bind]
    obtain ⟨g1, g2, g3, i1⟩ := replaceExpr_T l (getIdentMode r) [] [] sp .expr false s h.1 rfl rfl
    generalize replaceExpr l (getIdentMode r) [] [] sp .expr false s = R1 at g1 g2 g3 i1
    obtain ⟨k1, k2, k3, i2⟩ := replaceExpr_T r (getIdentMode R1.1.1) R1.1.2.1 R1.1.2.2 sp .expr false R1.2 (tgood_lift i1 h.2) g2 g3
    generalize replaceExpr r (getIdentMode R1.1.1) R1.1.2.1 R1.1.2.2 sp .expr false R1.2 = R2 at k1 k2 k3 i2
    split
    · refine trT_some (IdSub.trans i1 i2) ?_
      rw [tgood_ddParen, tgood_bin, tgood_lift i2 g1, k1, k2, k3]; rfl
    · exact trT_none (IdSub.trans i1 i2)
  · exact trT_none (IdSub.refl s)

theorem toDdTpl_T (cfg : Config) (e : Node) (s : St) (h : tgood s.idents e = true) : TrT (toDdTpl cfg e s) s := by
  unfold toDdTpl
  split
  · rename_i exprs quasis sp
    rw [tgood_tpl, Bool.and_eq_true] at h
    simp only [run_bind, run_pure]
    obtain ⟨g1, g2, g3, i1⟩ := replaceTplExprs_T exprs [] [] s h.1 rfl rfl
    refine trT_some i1 ?_
    rw [tgood_ddParen, tgood_tpl, g1, g2, g3, tgoodL_lift i1 h.2]; rfl
  · exact trT_none (IdSub.refl s)

theorem replaceCallCalleeAndArgs_T (callee : Node) (cargs : List Node) (csp : Span) (identCallee : Option Node)
    (asg args : List Node) (coa : Option String) (s : St)
    (hc : tgood s.idents callee = true) (hi : ∀ i, identCallee = some i → tgood s.idents i = true)
    (hca : tgoodL s.idents cargs = true) :
    OpT callee asg args (replaceCallCalleeAndArgs callee cargs csp identCallee asg args coa s) s := by
  intro _ ha hg
  simp only [replaceCallCalleeAndArgs, run_bind, run_pure]
  obtain ⟨g1, g2, g3, i1⟩ := replaceArgs_T .replace csp (coa.getD Generated.callMethodName == Generated.applyMethodName) cargs asg args s hca ha hg
  refine ⟨?_, g2, g3, i1⟩
  rw [tgood_call, g1, Bool.and_true]
  cases identCallee with
  | none => exact tgood_lift i1 hc
  | some i => rw [tgood_member, tgood_lift i1 (hi i rfl), tgood_pname]; rfl

theorem tgood_insertThis {σ} {c this : Node} (hc : tgood σ c = true) (ht : tgood σ this = true) :
    tgood σ (insertThis c this) = true := by
  unfold insertThis
  split
  · rw [tgood_call] at hc; rw [tgood_call, tgoodL_cons, tgood_arg, ht]; exact hc
  · exact hc

theorem rcwmTail_T (dst method : String) (identReplacement memberExpr expr callee : Node) (cargs asg0 : List Node)
    (csp : Span) (coa : Option String) (s0 : St)
    (gir : tgood s0.idents identReplacement = true) (gme : tgood s0.idents memberExpr = true) (lme : memberExpr.isLit = false)
    (hc : tgood s0.idents callee = true) (hca : tgoodL s0.idents cargs = true) (ga0 : tgoodL s0.idents asg0 = true) :
    TrT2 (rcwmTail dst method identReplacement memberExpr expr callee cargs asg0 csp coa s0) s0 := by
  unfold rcwmTail
  simp only [run_bind, run_pure]
  rcases getIdentUsed_casesT memberExpr asg0 [] csp .expr s0 with ⟨hl, _⟩ | ⟨_, n1, s1, h1, i1, hn1⟩
  · rw [lme] at hl; cases hl
  · rw [h1]
    obtain ⟨gc, ga3, gg3, i3⟩ := replaceCallCalleeAndArgs_T callee cargs csp (some (tempIdent n1)) _
      ([] ++ [exprOrSpread (tempIdent n1) .expr] ++ [.arg none identReplacement]) coa s1 (tgood_lift i1 hc)
      (by intro i hi; cases hi; simp [hn1]) (tgoodL_lift i1 hca) (tgood_lift i1 hc) (tgoodL_hoist i1 hn1 gme ga0 .expr csp)
      (by simp [exprOrSpread, tgood_lift i1 gir, hn1])
    exact trT2_ddParen (IdSub.trans i1 i3) (tgood_insertThis gc (tgood_lift (IdSub.trans i1 i3) gir)) gg3 ga3 _ _ _

theorem replaceCallWithMember_T (cfg : Config) (expr : Node) (method : String) (msp : Span)
    (callee : Node) (cargs : List Node) (csp : Span) (memberOpt : Option Node) (coa : Option String) (s : St)
    (he : tgood s.idents expr = true) (hc : tgood s.idents callee = true) (hca : tgoodL s.idents cargs = true)
    (hm : ∀ m, memberOpt = some m → tgood s.idents m = true ∧ m.isLit = false) :
    TrT2 (replaceCallWithMember cfg expr method msp callee cargs csp memberOpt coa s) s := by
  cases hg : cfg.get method with
  | none =>
    unfold replaceCallWithMember
    simp only [hg]
    exact trT2_none s
  | some csi =>
    rw [replaceCallWithMember_unfold _ _ _ _ _ _ _ _ _ _ csi hg]
    have hR0 : ∃ ir asg0 s0, getTemporalIdent expr [] csp .expr s = ((ir, asg0), s0) ∧ IdSub s s0 ∧
        tgoodL s0.idents asg0 = true ∧ tgood s0.idents (identOr ir expr) = true := by
      rcases getTemporalIdent_casesT expr [] csp .expr s with ⟨hl, h⟩ | ⟨hl, n, s', h, hi, hn⟩
      · exact ⟨none, [], s, h, IdSub.refl s, rfl, he⟩
      · exact ⟨some n, _, s', h, hi, tgoodL_hoist hi hn he (tgoodL_nil _) .expr csp, by simp [identOr, hn]⟩
    obtain ⟨ir, asg0, s0, h0, i0, ga0, gir⟩ := hR0
    rw [h0]
    have gme : tgood s0.idents (memberOr memberOpt (.member (identOr ir expr) (.pname method msp) csp)) = true ∧
        (memberOr memberOpt (.member (identOr ir expr) (.pname method msp) csp)).isLit = false := by
      cases memberOpt with
      | none => exact ⟨by rw [memberOr, tgood_member, gir, tgood_pname]; rfl, rfl⟩
      | some m => exact ⟨tgood_lift i0 (hm m rfl).1, (hm m rfl).2⟩
    have ht := rcwmTail_T csi.dst method (identOr ir expr) _ expr callee cargs asg0 csp coa s0 gir gme.1 gme.2
      (tgood_lift i0 hc) (tgoodL_lift i0 hca) ga0
    exact ⟨IdSub.trans i0 ht.1, ht.2⟩

theorem replaceCallSpreadWithMember_T (cfg : Config) (method : String)
    (callee : Node) (cargs : List Node) (csp : Span) (memberExpr : Node) (coa : String) (s : St)
    (hc : tgood s.idents callee = true) (hca : tgoodL s.idents cargs = true) (gme : tgood s.idents memberExpr = true) :
    TrT2 (replaceCallSpreadWithMember cfg method callee cargs csp memberExpr coa s) s := by
  unfold replaceCallSpreadWithMember
  cases cfg.get method with
  | none => exact trT2_none s
  | some csi =>
    simp only [run_bind]
    rcases getIdentUsed_casesT memberExpr [] [] csp .expr s with ⟨hl, h1⟩ | ⟨_, n1, s1, h1, i1, hn1⟩
    · rw [h1]; exact trT2_none s
    · rw [h1]
      simp only [run_bind, run_pure]
      obtain ⟨gc, ga3, gg3, i3⟩ := replaceCallCalleeAndArgs_T callee cargs csp (some (tempIdent n1)) _
        ([] ++ [exprOrSpread (tempIdent n1) .expr]) (some coa) s1 (tgood_lift i1 hc)
        (by intro i hi; cases hi; simp [hn1]) (tgoodL_lift i1 hca) (tgood_lift i1 hc) (tgoodL_hoist i1 hn1 gme (tgoodL_nil _) .expr csp)
        (by simp [exprOrSpread, hn1])
      exact trT2_ddParen (IdSub.trans i1 i3) gc gg3 ga3 _ _ _

theorem replaceCallWithoutCallee_T (cfg : Config) (name : Name) (isp : Span) (callee : Node) (cargs : List Node) (csp : Span) (s : St)
    (hc : tgood s.idents callee = true) (hca : tgoodL s.idents cargs = true) :
    TrT2 (replaceCallWithoutCallee cfg name isp callee cargs csp s) s := by
  unfold replaceCallWithoutCallee
  cases name with
  | temp k => exact trT2_none s
  | user method =>
    dsimp only
    cases cfg.get method with
    | none => exact trT2_none s
    | some csi =>
      dsimp only
      split
      · simp only [run_bind, run_pure]
        obtain ⟨gc, ga3, gg3, i3⟩ := replaceCallCalleeAndArgs_T callee cargs csp none [] _ none s hc nofun hca hc rfl
          (show tgoodL s.idents [Node.arg none (.ident (.user method) isp), .arg none (.ident (.user "undefined") csp)] = true by simp)
        exact trT2_ddParen i3 gc gg3 ga3 _ _ _
      · exact trT2_none s

theorem tgood_argExpr (σ) (a : Node) : tgood σ (argExpr a) = tgood σ a := by
  unfold argExpr; split <;> simp

theorem replacePrototypeCallOrApply_T (cfg : Config) (cargs : List Node) (csp : Span) (callee member : Node)
    (coa : String) (s : St)
    (hc : tgood s.idents callee = true) (hca : tgoodL s.idents cargs = true) (gm : tgood s.idents member = true) :
    TrT2 (replacePrototypeCallOrApply cfg cargs csp callee member coa s) s := by
  refine replacePrototype_cases (P := fun m => TrT2 (m s) s) cfg cargs csp callee member coa (trT2_none s) ?_ ?_
  · intro method msp this rest _ _ _
    exact replaceCallSpreadWithMember_T cfg method callee cargs csp member coa s hc hca gm
  · intro method msp this rest hpm hcargs _
    subst hcargs
    rw [tgoodL_cons, Bool.and_eq_true, ← tgood_argExpr] at hca
    exact replaceCallWithMember_T cfg (argExpr this) method msp _ rest csp (some member) (some coa) s hca.1
      (by rw [tgood_member, hca.1, tgood_pname]; rfl) hca.2
      (fun m hm => by obtain ⟨o, sp, rfl⟩ := prototypeMethodIdent_some hpm; cases hm; exact ⟨gm, rfl⟩)

theorem toDdCall_T (cfg : Config) (callee : Node) (cargs : List Node) (csp : Span) (s : St)
    (h : tgood s.idents (.call callee cargs csp) = true) : TrT2 (toDdCall cfg (.call callee cargs csp) s) s := by
  rw [tgood_call, Bool.and_eq_true] at h
  refine toDdCall_cases (P := fun m => TrT2 (m s) s) cfg callee cargs csp (trT2_none s) ?_ ?_ ?_
  · rintro obj m msp cs rfl
    have hgo := h.1
    rw [tgood_member, Bool.and_eq_true] at hgo
    exact replaceCallWithMember_T cfg obj m msp _ cargs csp none none s hgo.1 h.1 h.2 nofun
  · rintro o p sp m msp cs rfl _
    have hgo := h.1
    rw [tgood_member, Bool.and_eq_true] at hgo
    exact replacePrototypeCallOrApply_T cfg cargs csp _ _ m s h.1 h.2 hgo.1
  · rintro name isp rfl
    exact replaceCallWithoutCallee_T cfg _ _ _ cargs csp s h.1 h.2


/-- splitting a target keeps temporaries declared -/
def SplitT (R : (Node × Node) × St) (s : St) : Prop :=
  tgood R.2.idents R.1.1 = true ∧ tgood R.2.idents R.1.2 = true ∧ IdSub s R.2

theorem tgood_seqOperand (σ) (e : Node) : tgood σ (seqOperand e) = tgood σ e := by
  unfold seqOperand; split <;> simp

theorem hoistTargetPart_T (e : Node) (sp : Span) (s : St) (he : tgood s.idents e = true) :
    SplitT (hoistTargetPart e sp s) s := by
  unfold hoistTargetPart
  simp only [run_bind]
  have he' : tgood s.idents (seqOperand e) = true := by rw [tgood_seqOperand]; exact he
  rcases getTemporalIdent_casesT (seqOperand e) [] sp .expr s with ⟨hl, h⟩ | ⟨hl, n, s', h, hi, hn⟩
  · rw [h]; simp only [run_pure]; exact ⟨he', he', IdSub.refl s⟩
  · rw [h]
    simp only [List.nil_append, List.getLast?_singleton, run_pure]
    exact ⟨by simp [tempIdent, assignRight, tgood_lift hi he', hn], by simp [tempIdent, hn], hi⟩

theorem splitComputedKey_T (csp : Span) (e : Node) (sp : Span) (s : St) (he : tgood s.idents e = true) :
    SplitT (splitComputedKey csp e sp s) s := by
  unfold splitComputedKey
  simp only [run_bind, run_pure]
  obtain ⟨h1, h2, h3⟩ := hoistTargetPart_T e sp s he
  exact ⟨by simp [h1], by simp [h2], h3⟩

theorem splitProp_T (prop : Node) (sp : Span) (s : St) (hg : tgood s.idents prop = true) :
    SplitT (splitProp prop sp s) s := by
  have same : SplitT ((prop, prop), s) s := ⟨hg, hg, IdSub.refl s⟩
  unfold splitProp
  split
  · split
    · exact splitComputedKey_T _ _ sp s (by simpa using hg)
    · exact same
  · exact same

theorem splitMemberTarget_T (sp : Span) : ∀ (left : Node) (s : St), tgood s.idents left = true →
    SplitT (splitMemberTarget left sp s) s := by
  apply Node.ind
  intro left ih s hg
  have same : SplitT ((left, left), s) s := ⟨hg, hg, IdSub.refl s⟩
  unfold splitMemberTarget
  split
  · rename_i obj prop msp
    rw [tgood_member, Bool.and_eq_true] at hg
    split
    · have tail : ∀ m : M (Node × Node), SplitT (m s) s → SplitT ((do
          let x ← m
          let y ← splitProp prop sp
          pure (Node.member x.1 y.1 msp, Node.member x.2 y.2 msp) : M (Node × Node)) s) s := by
        intro m ⟨a1, a2, a3⟩
        simp only [run_bind, run_pure]
        obtain ⟨b1, b2, b3⟩ := splitProp_T prop sp _ (tgood_lift a3 hg.2)
        exact ⟨by rw [tgood_member, tgood_lift b3 a1, b1]; rfl, by rw [tgood_member, tgood_lift b3 a2, b2]; rfl, IdSub.trans a3 b3⟩
      dsimp only
      split
      · exact tail (pure (obj, obj)) ⟨hg.1, hg.1, IdSub.refl s⟩
      · exact tail (hoistTargetPart obj sp) (hoistTargetPart_T obj sp s hg.1)
    · exact same
  · rename_i ssp sup prop
    rw [tgood_other, tgoodL_cons, tgoodL_cons, tgoodL_nil, Bool.and_true, Bool.and_eq_true] at hg
    split
    · simp only [run_bind, run_pure]
      obtain ⟨b1, b2, b3⟩ := splitProp_T prop sp s hg.2
      exact ⟨by simp [tgood_lift b3 hg.1, b1], by simp [tgood_lift b3 hg.1, b2], b3⟩
    · exact same
  · rename_i inner psp
    rw [tgood_paren] at hg
    split
    · simp only [run_bind, run_pure]
      obtain ⟨h1, h2, h3⟩ := ih inner (by simp [kids]) s hg
      exact ⟨by rw [tgood_paren]; exact h1, h2, h3⟩
    · exact same
  · exact same

theorem tgood_assignRhs (σ) (r : Node) : tgood σ (assignRhs r) = tgood σ r := by
  unfold assignRhs; split <;> simp

theorem toDdAssign_T (cfg : Config) (e : Node) (s : St) (h : tgood s.idents e = true) : TrT (toDdAssign cfg e s) s := by
  unfold toDdAssign
  split
  · rename_i op left r sp
    rw [tgood_assign, Bool.and_eq_true] at h
    split
    · exact trT_none (IdSub.refl s)
    · simp only [run_bind]
      obtain ⟨a1, a2, a3⟩ := splitMemberTarget_T sp left s h.1
      generalize splitMemberTarget left sp s = R1 at a1 a2 a3
      obtain ⟨b1, b2⟩ := toDdBinary_T cfg (.bin "+" R1.1.2 (assignRhs r) sp) R1.2
        (by rw [tgood_bin, a2, tgood_assignRhs, tgood_lift a3 h.2]; rfl)
      generalize toDdBinary cfg (.bin "+" R1.1.2 (assignRhs r) sp) R1.2 = R2 at b1 b2
      obtain ⟨res, s2⟩ := R2
      cases res with
      | none => exact trT_none (IdSub.trans a3 b1)
      | some e1 =>
        refine trT_some (IdSub.trans a3 b1) ?_
        rw [tgood_assign, tgood_lift b1 a1, b2 e1 rfl]; rfl
  · exact trT_none (IdSub.refl s)

end IastModel
