import IastModel.Lemmas.ErVisitBase
namespace IastModel
open Node

theorem Forall2_Sim_length {Xs ks : List Node} (h : Forall2 ESim Xs ks) : Xs.length = ks.length := Forall2.length_eq h

/-- a node the visitor only descends into: its result erases to the node itself -/
theorem gen_VC (n : Node) (ks' : List Node) (lo hi : Nat) (hs : srcOk n = true) (hk : structK n = true)
    (hkl : KL lo hi ks' n.kids) : EVC lo hi (n.withKids ks') n := by
  have hl := hkl.length
  obtain ⟨hnb, hta, hid, -, hsp, -⟩ := structK_head hk ks'
  refine ⟨?_, Or.inl hsp, ?_, hta, fun h => absurd h (by rw [hid]; exact Bool.false_ne_true)⟩
  · intro m hb σ
    obtain ⟨ks'', rfl, hks⟩ := hb.inv hnb
    rw [Node.kids_withKids n ks' hl] at hks
    have hl2 : ks''.length = n.kids.length := by rw [hks.length, hl]
    rw [Node.withKids_withKids n ks' ks'' hl hl2]
    obtain ⟨Xs, Δ, eX, sX, wX⟩ := eraseL_KL hkl ks'' hks σ
    have hlX := Forall2_Sim_length sX
    obtain ⟨-, -, -, hna, hspX, -⟩ := structK_head hk Xs
    refine ⟨n.withKids Xs, Δ, ?_, ?_, wX⟩
    · rw [erase_struct _ (structK_head hk ks'').2.2.2.2.2, Node.kids_withKids n ks'' hl2, eX]
      simp only
      rw [Node.withKids_withKids n ks'' Xs hl2 hlX]
    · exact ⟨strip_withKids n Xs hk hlX (Forall2_Sim_strip sX), Or.inl hspX,
        noSp_of_unSpread (unSpread_withKids n Xs hk (srcOk_self hs)) hna⟩
  · cases n <;> first | exact Bool.noConfusion hk | simp only [withKids, Deep]
    case other k sp ns vs => exact ⟨trivial, trivial, trivial, hkl.deepL⟩
    case array es sp => exact ⟨trivial, hkl.deepL⟩
    case member o p sp =>
      match ks', hl, hkl with
      | [o', p'], _, hkl =>
        simp only [KL, kids, Forall2] at hkl
        simp only [List.getD_cons_zero, List.getD_cons_succ]
        exact ⟨trivial, hkl.1.1, hkl.2.1.1, hkl.1.2.2.1, hkl.2.1.2.2.1, hkl.1.2.2.2.2⟩

theorem arg_VC {lo hi : Nat} {s : Option Span} {e' e : Node} (h : EVC lo hi e' e) : EVC lo hi (.arg s e') (.arg s e) := by
  refine ⟨?_, ?_, ?_, rfl, by simp [Node.isIdent]⟩
  · intro m hb σ
    obtain ⟨e'', rfl, he⟩ := hb.arg_inv
    obtain ⟨X, Δ, eX, sX, wX⟩ := h.1 e'' he σ
    exact ⟨.arg s X, Δ, by simp only [erase, eX], ESim_arg.mpr ⟨rfl, sX⟩, wX⟩
  · exact h.2.1
  · simp only [Deep]
    exact ⟨trivial, h.1, h.2.2.1⟩

theorem loose_of_spanRel {e' e : Node} {sp : Span} (h : spanRel e' e) (hs : srcNode (.paren e sp) = true) :
    (e'.span == sp) = false := by
  simp only [srcNode, Bool.and_eq_true, Bool.not_eq_true'] at hs
  have hne : (e.span == sp) = false := by have := hs.2; simpa [bne] using this
  rcases h with h | h
  · rw [h]; exact hne
  · rw [h.2]
    cases hb : (Span.dummy == sp) with
    | false => rfl
    | true =>
      have := span_eq_of_beq hb
      rw [← this] at hs
      simp [dummy_isDummy] at hs

theorem paren_VC {lo hi : Nat} {e' e : Node} {sp : Span} (hs : srcOk (.paren e sp) = true) (h : EVC lo hi e' e) :
    EVC lo hi (.paren e' sp) (.paren e sp) := by
  have hloose := loose_of_spanRel h.2.1 (srcOk_self hs)
  refine ⟨?_, Or.inl rfl, ?_, rfl, by simp [Node.isIdent]⟩
  · intro m hb σ
    obtain ⟨e'', rfl, he⟩ := hb.paren_inv
    obtain ⟨X, Δ, eX, sX, wX⟩ := h.1 e'' he σ
    refine ⟨.paren X sp, Δ, by rw [erase_paren_loose _ _ _ (by rw [BRg.span _ _ he]; exact hloose), eX], ?_, wX⟩
    exact ⟨by simp only [strip, sX.1], Or.inl rfl, by simp [noSp, unSpread]⟩
  · simp only [Deep]
    intro _
    exact ⟨e, rfl, hloose, h.1, h.2.2.1⟩

theorem seq_VC {lo hi : Nat} {es' es : List Node} {sp : Span} (h : KL lo hi es' es) : EVC lo hi (.seq es' sp) (.seq es sp) := by
  have hhead : headIsTempAssign es' = false := by
    cases es' with
    | nil => rfl
    | cons x xs =>
      cases es with
      | nil => simp [KL, Forall2] at h
      | cons y ys => simp only [KL, Forall2] at h; exact h.1.2.2.2.1
  refine ⟨?_, Or.inl rfl, by simp [Deep], rfl, by simp [Node.isIdent]⟩
  intro m hb σ
  obtain ⟨es'', rfl, hes⟩ := hb.seq_inv
  have hhead2 : headIsTempAssign es'' = false := by
    cases es' with
    | nil => rw [BRgL.nil_inv hes]; rfl
    | cons x xs =>
      obtain ⟨x'', xs'', rfl, hx, _⟩ := BRgL.cons_inv hes
      simp only [headIsTempAssign] at hhead ⊢
      rw [hx.isTempAssign]; exact hhead
  obtain ⟨Xs, Δ, eX, sX, wX⟩ := eraseL_KL h es'' hes σ
  refine ⟨.seq Xs sp, Δ, by simp only [erase, hhead2, Bool.false_eq_true, if_false, eX], ?_, wX⟩
  exact ⟨by simp only [strip, Forall2_Sim_strip sX], Or.inl rfl, by simp [noSp, unSpread]⟩

theorem cond_VC {lo hi : Nat} {t' c' a' t c a : Node} {sp : Span} (hs : srcOk (.cond t c a sp) = true)
    (h : KL lo hi [t', c', a'] [t, c, a]) : EVC lo hi (.cond t' c' a' sp) (.cond t c a sp) := by
  have hsp : sp.isDummy = false := by
    have := srcOk_self hs; simpa [srcNode] using this
  refine ⟨?_, Or.inl rfl, by simp [Deep], rfl, by simp [Node.isIdent]⟩
  intro m hb σ
  obtain ⟨t'', c'', a'', rfl, ht, hc, ha⟩ := hb.cond_inv
  obtain ⟨Xs, Δ, eX, sX, wX⟩ := eraseL_KL h [t'', c'', a''] (BRgL.cons ht (BRgL.cons hc (BRgL.cons ha BRgL.nil))) σ
  simp only [eraseL] at eX
  have hX := congrArg Prod.fst eX
  have hE := congrArg Prod.snd eX
  simp only at hX hE
  refine ⟨.cond (erase σ t'').1 (erase (erase σ t'').2 c'').1 (erase (erase (erase σ t'').2 c'').2 a'').1 sp, Δ, ?_, ?_, wX⟩
  · simp only [erase, isLoweredGuard_src _ _ _ _ hsp]
    rw [hE]
  · have hst := Forall2_Sim_strip sX
    rw [← hX] at hst
    simp only [stripL, List.cons.injEq, and_true] at hst
    exact ⟨by simp only [strip, hst.1, hst.2.1, hst.2.2], Or.inl rfl, by simp [noSp, unSpread]⟩

theorem tempTarget_of_VC {lo hi : Nat} {l' l : Node} (h : EVC lo hi l' l) (hs : srcOk l = true) : tempTarget? l' = none := by
  cases l' with
  | ident nm isp =>
    have := h.2.2.2.2 rfl
    rw [← this] at hs
    exact not_temp_of_src hs
  | _ => rfl

theorem assign_VC {lo hi : Nat} {op : String} {l' r' l r : Node} {sp : Span} (hs : srcOk (.assign op l r sp) = true)
    (hl : EVC lo hi l' l) (hr : EVC lo hi r' r) : EVC lo hi (.assign op l' r' sp) (.assign op l r sp) := by
  have hnt := tempTarget_of_VC hl (srcOk_kids hs l (by simp [kids]))
  have h0 := srcOk_self hs
  simp only [srcNode, Bool.and_eq_true, Bool.not_eq_true'] at h0
  refine ⟨?_, Or.inl rfl, by simp [Deep], ?_, by simp [Node.isIdent]⟩
  · intro m hb σ
    obtain ⟨l'', r'', rfl, hl'', hr''⟩ := hb.assign_inv
    obtain ⟨L, Δ1, e1, s1, w1⟩ := hl.1 l'' hl'' σ
    obtain ⟨R, Δ2, e2, s2, w2⟩ := hr.1 r'' hr'' (Δ1 ++ σ)
    refine ⟨.assign op L R sp, Δ2 ++ Δ1, ?_, ?_, w2.append w1⟩
    · rw [erase_assign_nt _ _ _ _ _ (by rw [hl''.tempTarget]; exact hnt), e1]
      simp only
      rw [e2]
      simp only [List.append_assoc, Prod.mk.injEq, and_true]
      -- the re-sugaring of `erase` does not fire on a source assignment
      unfold resugarAssign
      split
      · rename_i hop
        split
        · rename_i A B bsp
          have hst := s2.1
          have hsr := s2.2.1
          simp only [strip] at hst
          obtain ⟨a, b, bsp2, rfl, -, -⟩ := strip_eq_bin hst.symm
          simp only [spanRel, Node.span, isOptN] at hsr
          rcases hsr with hsr | hsr
          · subst hsr
            have h2 := h0.2
            simp only [looksLowered, hop, Bool.true_and] at h2
            simp [h2]
          · exact absurd hsr.1 (by simp)
        · rfl
      · rfl
    · exact ⟨by simp only [strip, s1.1, s2.1], Or.inl rfl, noSp_assign _ _ _ _⟩
  · unfold isTempAssign
    split
    · rename_i k isp rr spp heq
      simp only [assign.injEq] at heq
      obtain ⟨_, rfl, _, _⟩ := heq
      simp [tempTarget?] at hnt
    · rfl

theorem calleeKind_of_VC {lo hi : Nat} {c' c : Node} (h : EVC lo hi c' c) (hs : srcOk c = true) : calleeKind c' = .plain := by
  cases c' with
  | member o' p' msp =>
    cases o' with
    | ident nm isp =>
      obtain ⟨o, p, sp2, rfl⟩ := Er_strip_member (h.1.er ⟨fun _ => False, []⟩)
      have hD := h.2.2.1
      simp only [Deep] at hD
      have := hD.2.2.2.2.2 rfl
      rw [← this] at hs
      cases nm with
      | temp k =>
        have := srcOk_self (srcOk_kids hs (.ident (.temp k) isp) (by simp [kids]))
        simp [srcNode] at this
      | user x =>
        have hx := srcOk_self (srcOk_kids hs (.ident (.user x) isp) (by simp [kids]))
        simp only [srcNode, bne_iff_ne, ne_eq] at hx
        cases p' with
        | pname q qsp => simp only [calleeKind, beq_iff_eq, hx, if_false]
        | _ => rfl
    | _ => rfl
  | _ => rfl

/-! `calleeKind` looks at the constructor of the callee, of its object and of its property: other children do not
    matter at any of the three places. -/

theorem calleeKind_withKids {c : Node} (h : ∀ o p msp, c ≠ .member o p msp) (ks : List Node) :
    calleeKind (c.withKids ks) = calleeKind c := by
  cases c <;> first | rfl | exact absurd rfl (h _ _ _)

theorem calleeKind_obj_withKids {o : Node} (h : ∀ nm isp, o ≠ .ident nm isp) (ks : List Node) (p p' : Node) (msp : Span) :
    calleeKind (.member (o.withKids ks) p' msp) = calleeKind (.member o p msp) := by
  cases o <;> first | rfl | exact absurd rfl (h _ _)

theorem calleeKind_prop_withKids (nm : Name) (isp : Span) (p : Node) (ks : List Node) (msp : Span) :
    calleeKind (.member (.ident nm isp) (p.withKids ks) msp) = calleeKind (.member (.ident nm isp) p msp) := by
  cases nm <;> cases p <;> rfl

/-- a replacement of nested blocks cannot turn a callee into a hook or a call through a temporary -/
theorem calleeKind_BRg {c c'' : Node} (h : BRg c c'') : calleeKind c'' = calleeKind c := by
  by_cases hmem : ∃ o p msp, c = .member o p msp
  case neg =>
    obtain ⟨ks, rfl⟩ := h.exists_withKids
    exact calleeKind_withKids (fun o p msp e => hmem ⟨o, p, msp, e⟩) ks
  obtain ⟨o, p, msp, rfl⟩ := hmem
  obtain ⟨o'', p'', rfl, ho, hp⟩ := h.member_inv
  by_cases hid : ∃ nm isp, o = .ident nm isp
  case neg =>
    obtain ⟨ks, rfl⟩ := ho.exists_withKids
    exact calleeKind_obj_withKids (fun nm isp e => hid ⟨nm, isp, e⟩) ks p p'' msp
  obtain ⟨nm, isp, rfl⟩ := hid
  rw [BRg_noBlk (noBlk_ident _ _) ho]
  obtain ⟨ks, rfl⟩ := hp.exists_withKids
  exact calleeKind_prop_withKids nm isp p ks msp

theorem call_VC {lo hi : Nat} {c' c : Node} {as' as : List Node} {sp : Span} (hs : srcOk (.call c as sp) = true)
    (hc : EVC lo hi c' c) (ha : KL lo hi as' as) : EVC lo hi (.call c' as' sp) (.call c as sp) := by
  have hck := calleeKind_of_VC hc (srcOk_kids hs c (by simp [kids]))
  refine ⟨?_, Or.inl rfl, by simp [Deep], rfl, by simp [Node.isIdent]⟩
  intro m hb σ
  obtain ⟨c'', as'', rfl, hcc, has⟩ := hb.call_inv
  obtain ⟨C, Δ1, e1, s1, w1⟩ := hc.1 c'' hcc σ
  obtain ⟨Xs, Δ2, e2, s2, w2⟩ := eraseL_KL ha as'' has (Δ1 ++ σ)
  refine ⟨.call C Xs sp, Δ2 ++ Δ1, ?_, ?_, w2.append w1⟩
  · rw [erase_call_plain _ _ _ _ (by rw [calleeKind_BRg hcc]; exact hck), e1]
    simp only
    rw [e2, List.append_assoc]
  · exact ⟨by simp only [strip, s1.1, Forall2_Sim_strip s2], Or.inl rfl, noSp_call _ _ _⟩

/-- nodes the visitor only descends into, keeping the constructor -/
def genK : Node → Bool
  | .arg .. | .paren .. | .seq .. | .cond .. => true
  | n => structK n

theorem genAll_VC (n : Node) (hs : srcOk n = true) (hg : genK n = true) (lo hi : Nat) (ks' : List Node)
    (hkl : KL lo hi ks' n.kids) : EVC lo hi (n.withKids ks') n := by
  have hl := hkl.length
  cases n with
  | arg sA e =>
    match ks', hl, hkl with
    | [e'], _, hkl => simp only [KL, kids, Forall2] at hkl; exact arg_VC hkl.1
  | paren e sp =>
    match ks', hl, hkl with
    | [e'], _, hkl => simp only [KL, kids, Forall2] at hkl; exact paren_VC hs hkl.1
  | seq es sp => exact seq_VC hkl
  | cond t c a sp =>
    match ks', hl, hkl with
    | [t', c', a'], _, hkl => exact cond_VC hs hkl
  | _ => exact gen_VC _ ks' lo hi hs hg hkl

end IastModel
