import IastModel.Lemmas.CnMaster
/-
  `cl v sp`: the number of occurrences of the string-literal node with value `v` at position `sp`, as an instance of
  the counting theorems at `isStrLitAt v sp` (not blind to copies: operands are cloned into hook arguments).
-/
namespace IastModel
open Node

/-- the string-literal node with value `v` at source position `sp` -/
def isStrLitAt (v : String) (sp : Span) (n : Node) : Bool :=
  match n with
  | .lit k v' _ sp' => k == "StringLiteral" && v' == v && sp' == sp
  | _ => false

/-- how many times that literal node occurs in a tree (the transforms copy literals into hook arguments,
    so the number may grow; what matters is whether it is zero) -/
def cl (v : String) (sp : Span) (n : Node) : Nat := Node.count (isStrLitAt v sp) n
def clL (v : String) (sp : Span) (l : List Node) : Nat := (l.map (cl v sp)).sum

theorem cl_eq (v sp) (n : Node) : cl v sp n = (if isStrLitAt v sp n then 1 else 0) + clL v sp n.kids :=
  Node.count_eq (isStrLitAt v sp) n

@[simp] theorem clL_nil (v sp) : clL v sp [] = 0 := rfl
@[simp] theorem clL_cons (v sp) (x : Node) (xs : List Node) : clL v sp (x :: xs) = cl v sp x + clL v sp xs := countL_cons _ x xs
@[simp] theorem clL_append (v sp) (xs ys : List Node) : clL v sp (xs ++ ys) = clL v sp xs + clL v sp ys := countL_append _ xs ys

theorem isStrLitAt_not_lit (v sp) (n : Node) (h : ∀ k v' r sp', n ≠ .lit k v' r sp') : isStrLitAt v sp n = false := by
  cases n <;> first | rfl | exact absurd rfl (h _ _ _ _)

theorem scaf_strLit (v : String) (sp : Span) : Scaf (isStrLitAt v sp) where
  glue n h := by
    cases n <;> try rfl
    case lit k v' r sp' =>
      have : (k == "StringLiteral") = false := by simpa [glue] using h
      simp only [isStrLitAt, this, Bool.false_and]
  tpl _ _ _ _ _ := rfl
  call := by intros; rfl
  optCall := by intros; rfl
  assign := by intros; rfl

theorem hookW_strLit (v sp) (x : Node) {m : String} (h : hookName? x = some m) : hookW (isStrLitAt v sp) x = 0 := by
  obtain ⟨_, _, _, _, _, _, rfl, _⟩ := hookName?_some h
  rw [hookW_of_ident fun _ _ => rfl]; rfl

end IastModel
