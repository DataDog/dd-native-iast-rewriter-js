import IastModel.Lemmas.CvVisit
namespace IastModel
open Node

/-- a hook site that mirrors its operation (or has the recorded omission) however the block statements
    inside it are rewritten afterwards -/
def RobustOK (cfg : Config) (h : Node) : Prop := ∀ h', BR h h' → siteOKb cfg h' = true

theorem siteOKb_of_OKres {cfg : Config} {h : Node} (hr : OKres cfg (argsMirrorSite cfg h)) : siteOKb cfg h = true :=
  siteOKb_of_MirOK hr

theorem robust_of_cert {cfg : Config} {name : String} {first : Node} {args : List Node} (sp : Span)
    (h : Cert cfg name first args) (hn : noBlkL args = true) : RobustOK cfg (ddCall first args name sp) := by
  intro h' hb
  unfold ddCall at hb
  obtain ⟨c', as', rfl, hc, has⟩ := hb.call_inv
  have : c' = ddCallee name sp := BR_noBlk _ (noBlk_ddCallee name sp) _ hc
  subst this
  obtain ⟨a1, rest', rfl, ha1, hrest⟩ := BRL.cons_inv has
  obtain ⟨first', rfl, hf⟩ := ha1.arg_inv
  have : rest' = args := BRL_noBlk hn hrest
  subst this
  apply siteOKb_of_OKres
  have := cert_ok (cert_BR h hn hf)
  have e : argsMirrorSite cfg (.call (ddCallee name sp) (.arg none first' :: rest') sp) = argsMirrorFirst cfg name first' rest' :=
    argsMirrorSite_ddCall cfg first' rest' name sp
  rw [e]; exact this

theorem RobustOK.BR {cfg : Config} {h h' : Node} (hr : RobustOK cfg h) (hb : BR h h') : RobustOK cfg h' :=
  fun h'' hb' => hr h'' (hb.trans hb')

theorem RobustOK.ok {cfg : Config} {h : Node} (hr : RobustOK cfg h) : MirOK cfg h :=
  MirOK_of_siteOKb (hr h (BR.refl h))

end IastModel
