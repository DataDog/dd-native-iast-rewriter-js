import IastModel.Lemmas.Shapes
import IastModel.Lemmas.Tree
import IastModel.Lemmas.VisitEq
namespace IastModel
open Node

theorem oc_bind {α β : Type} (m : OcM α) (f : α → OcM β) (oc : OcSt) (s : St) :
    (m >>= f) oc s = f (m oc s).1.1 (m oc s).1.2 (m oc s).2 := by
  simp only [bind, StateT.bind]
  rfl

theorem oc_pure {α : Type} (a : α) (oc : OcSt) (s : St) : (pure a : OcM α) oc s = ((a, oc), s) := rfl

theorem oc_get (oc : OcSt) (s : St) : (get : OcM OcSt) oc s = ((oc, oc), s) := rfl
theorem oc_set (oc' oc : OcSt) (s : St) : (set oc' : OcM Unit) oc s = (((), oc'), s) := rfl
theorem oc_modify (f : OcSt → OcSt) (oc : OcSt) (s : St) : (modify f : OcM Unit) oc s = (((), f oc), s) := rfl
theorem oc_lift {α : Type} (m : M α) (oc : OcSt) (s : St) : (liftM m : OcM α) oc s = (((m s).1, oc), (m s).2) := by
  simp [liftM, monadLift, MonadLift.monadLift, StateT.lift, bind, StateT.bind, pure, StateT.pure]
  rfl

/-- The optional-chain visitor's case analysis, once.  `Q n oc s R` is to hold of the result `R` of a visit
    that starts from `Pre n oc s`: it holds of a step that does nothing, the spine passes it on, and where a
    link handler leaves `H` the visit may go on from what the handler returned. -/
theorem ocVisit_rule (cfg : Config) {Pre : Node → OcSt → St → Prop} {Q : Node → OcSt → St → (Node × OcSt) × St → Prop}
    {H : Node → OcSt → St → (Option Node × OcSt) × St → Prop}
    (hfuel : ∀ n oc s, Pre n oc s → Q n oc s ((n, oc), (outOfFuel s).2))
    (hsame : ∀ n oc s, Pre n oc s → Q n oc s ((n, oc), s))
    (hcall : ∀ o callee args csp sp oc s, Pre (.optChain o (.optCall callee args csp) sp) oc s →
      H (.optChain o (.optCall callee args csp) sp) oc s (getCallFromBaseCall callee args o oc s))
    (hmember : ∀ o obj prop msp sp oc s, Pre (.optChain o (.member obj prop msp) sp) oc s →
      H (.optChain o (.member obj prop msp) sp) oc s (getMemberFromBaseMember obj prop msp o oc s))
    (hnone : ∀ n oc s, Pre n oc s → H n oc s ((none, oc), s))
    (hlink : ∀ n oc s r oc1 s1, Pre n oc s → H n oc s ((r, oc1), s1) →
      Pre (r.getD n) oc1 s1 ∧ ∀ X, Q (r.getD n) oc1 s1 X → Q n oc s X)
    (hspine : ∀ f, (∀ e oc s, Pre e oc s → Q e oc s (ocVisit cfg f e oc s)) →
      ∀ e oc s, Pre e oc s → Q e oc s (ocSpine (ocVisit cfg f) e oc s))
    (hfound : ∀ n oc s, Pre n oc s →
      Pre n { oc with found := true } s ∧ ∀ X, Q n { oc with found := true } s X → Q n oc s X) :
    ∀ (f : Nat) (n : Node) (oc : OcSt) (s : St), Pre n oc s → Q n oc s (ocVisit cfg f n oc s) := by
  intro f
  induction f with
  | zero => intro n oc s h; exact hfuel n oc s h
  | succ f ih =>
    intro n oc s h
    unfold ocVisit
    split
    · rename_i optional base sp
      rw [oc_bind, oc_get]
      show Q _ oc s ((ite (oc.found = true) _ _ : OcM Node) oc s)
      by_cases hf : oc.found = true
      · -- a link of the chain being lowered: the handler's result, then the rest of the spine
        rw [if_pos hf]
        have key : ∀ (m : OcM (Option Node)), H (.optChain optional base sp) oc s (m oc s) →
            Q (.optChain optional base sp) oc s ((do
              let r ← m
              if optional = true then pure (r.getD (optChain optional base sp))
              else ocSpine (ocVisit cfg f) (r.getD (optChain optional base sp)) : OcM Node) oc s) := by
          intro m hm
          rw [oc_bind]
          generalize m oc s = R at hm
          obtain ⟨⟨r, oc1⟩, s1⟩ := R
          obtain ⟨p1, q1⟩ := hlink _ oc s r oc1 s1 h hm
          by_cases ho : optional = true
          · rw [if_pos ho]; exact q1 _ (hsame _ oc1 s1 p1)
          · rw [if_neg ho]; exact q1 _ (hspine _ ih _ oc1 s1 p1)
        split
        · exact key _ (hcall _ _ _ _ _ oc s h)
        · exact key _ (hmember _ _ _ _ _ oc s h)
        · exact key (pure none) (hnone _ oc s h)
      · rw [if_neg hf]
        by_cases ht : ocTrigger cfg optional base = true
        · rw [if_pos ht, oc_bind, oc_modify]
          obtain ⟨p1, q1⟩ := hfound _ oc s h
          exact q1 _ (ih _ _ _ p1)
        · rw [if_neg ht]; exact hspine _ ih _ oc s h
    · exact hsame n oc s h

/-- identifier or literal: the node kinds the transforms copy rather than hoist -/
def leaf (n : Node) : Bool := n.isIdent || n.isLit

/-- the expression kinds the transforms and the optional-chain lowering put in place of an expression -/
def built : Node → Bool
  | .call .. | .member .. | .optChain .. | .paren .. | .assign .. | .arrow .. => true
  | _ => false

theorem built_withKids (n : Node) (ks : List Node) : built (n.withKids ks) = built n := by
  cases n <;> rfl

theorem isDd_built {e : Node} (h : IsDd e) : built e = true := by
  obtain ⟨x, args, asg, m, sp, rfl⟩ := h
  unfold ddParen; split <;> rfl

theorem ocSpine_shape (v : Node → OcM Node) (e : Node) (oc : OcSt) (s : St) :
    (ocSpine v e oc s).1.1 = e ∨ built (ocSpine v e oc s).1.1 = true := by
  unfold ocSpine
  split
  · exact .inr rfl
  · exact .inr rfl
  · split
    · exact .inl rfl
    · exact .inr rfl
  · exact .inr rfl
  · exact .inl rfl

theorem getCallFromBaseCall_built (callee : Node) (args : List Node) (optional : Bool) (oc : OcSt) (s : St) (r : Node)
    (h : (getCallFromBaseCall callee args optional oc s).1.1 = some r) : built r = true := by
  unfold getCallFromBaseCall at h
  cases optional with
  | false => cases h; rfl
  | true =>
    simp only [if_true] at h
    split at h
    · simp only [oc_bind, oc_get, oc_set, oc_lift] at h
      generalize getIdentUsed _ oc.assignments [] Span.dummy IdentKind.expr s = X at h
      obtain ⟨⟨id, asg1, a1⟩, s1⟩ := X
      cases id with
      | none => cases h
      | some t0 =>
        simp only [oc_bind, oc_lift, oc_modify] at h
        generalize getIdentUsed _ asg1 [] Span.dummy IdentKind.expr s1 = Y at h
        obtain ⟨⟨id2, asg2, a2⟩, s2⟩ := Y
        cases id2 with
        | none => cases h
        | some t1 => cases h; rfl
    · simp only [oc_bind, oc_get, oc_set, oc_lift] at h
      generalize getIdentUsed _ oc.assignments [] Span.dummy IdentKind.expr s = X at h
      obtain ⟨⟨id, asg1, a1⟩, s1⟩ := X
      cases id with
      | none => cases h
      | some t0 =>
        simp only at h
        split at h
        · cases h
        · cases h; rfl

theorem getMemberFromBaseMember_built (obj prop : Node) (msp : Span) (optional : Bool) (oc : OcSt) (s : St) (r : Node)
    (h : (getMemberFromBaseMember obj prop msp optional oc s).1.1 = some r) : built r = true := by
  unfold getMemberFromBaseMember at h
  cases optional with
  | false => cases h; rfl
  | true =>
    simp only [if_true, oc_bind, oc_get, oc_set, oc_lift] at h
    generalize getIdentUsed obj oc.assignments [] Span.dummy IdentKind.expr s = X at h
    obtain ⟨⟨id, asg1, a1⟩, s1⟩ := X
    cases id with
    | none => cases h
    | some t => cases h; rfl

/-- the optional-chain visitor returns its argument, or one of the kinds in `built` (a chain link is one) -/
theorem ocVisit_shape (cfg : Config) : ∀ (f : Nat) (n : Node) (oc : OcSt) (s : St),
    (ocVisit cfg f n oc s).1.1 = n ∨ built (ocVisit cfg f n oc s).1.1 = true := fun f n oc s =>
  ocVisit_rule cfg (Pre := fun _ _ _ => True) (Q := fun n _ _ R => R.1.1 = n ∨ built R.1.1 = true)
    (H := fun _ _ _ R => ∀ r, R.1.1 = some r → built r = true)
    (fun _ _ _ _ => .inl rfl) (fun _ _ _ _ => .inl rfl)
    (fun _ _ _ _ _ _ _ _ => getCallFromBaseCall_built _ _ _ _ _)
    (fun _ _ _ _ _ _ _ _ => getMemberFromBaseMember_built _ _ _ _ _ _)
    (fun _ _ _ _ => nofun)
    (fun n oc s r oc1 s1 _ hm => ⟨trivial, fun X hX => by
      cases r with
      | none => exact hX
      | some x => exact .inr (hX.elim (fun e => e ▸ hm x rfl) id)⟩)
    (fun _ _ e oc s _ => ocSpine_shape _ e oc s)
    (fun _ _ _ _ => ⟨trivial, fun _ hX => hX⟩) f n oc s trivial

theorem toDdCond_shape (cfg : Config) (fuel : Nat) (e : Node) (s : St) :
    ((toDdCond cfg fuel e s).1.1 = e ∨ built (toDdCond cfg fuel e s).1.1 = true) ∧
      ∀ r, (toDdCond cfg fuel e s).1.2 = some r → built r = true := by
  unfold toDdCond
  rw [run_bind]
  have hv : (StateT.run (ocVisit cfg fuel e) {} s).1.1 = e ∨ built (StateT.run (ocVisit cfg fuel e) {} s).1.1 = true :=
    ocVisit_shape cfg fuel e {} s
  generalize StateT.run (ocVisit cfg fuel e) {} s = X at hv ⊢
  obtain ⟨⟨e', oc⟩, s'⟩ := X
  dsimp only at hv ⊢
  cases oc.newIdent with
  | none => exact ⟨hv, fun r hr => by cases hr⟩
  | some t =>
    by_cases ha : oc.assignments.isEmpty = true
    · simp only [ha, if_true]; exact ⟨hv, fun r hr => by cases hr⟩
    · simp only [ha, Bool.false_eq_true, if_false]
      exact ⟨hv, fun r hr => by cases hr; rfl⟩

theorem withKids_leaf (n : Node) (ks : List Node) : leaf (n.withKids ks) = leaf n := by
  cases n <;> rfl

theorem built_not_leaf {r : Node} (h : built r = true) : leaf r = false := by
  cases r <;> first | rfl | cases h

theorem toDdCond_leaf (cfg : Config) (fuel : Nat) (e : Node) (s : St) (h : leaf e = false) :
    leaf (toDdCond cfg fuel e s).1.1 = false ∧ ∀ r, (toDdCond cfg fuel e s).1.2 = some r → leaf r = false := by
  obtain ⟨h1, h2⟩ := toDdCond_shape cfg fuel e s
  exact ⟨h1.elim (fun e' => (congrArg leaf e').trans h) built_not_leaf, fun r hr => built_not_leaf (h2 r hr)⟩

theorem finish_fst (root : Bool) (x : Node) (s : St) :
    ((if root = true then do resetCounter; pure x else pure x : M Node) s).1 = x := by
  cases root <;> rfl

theorem mapKidsM_fst (g : Node → M Node) (n : Node) (s : St) :
    (mapKidsM mapM' g n s).1 = n.withKids (mapM' g n.kids s).1 := rfl

theorem shape_getD {n n1 : Node} {res : Option Node} (h1 : ∃ ks, n1 = n.withKids ks)
    (hres : ∀ e, res = some e → built e = true) :
    (∃ ks, res.getD n1 = n.withKids ks) ∨ built (res.getD n1) = true := by
  cases res with
  | none => exact Or.inl h1
  | some e => exact Or.inr (hres e rfl)

/-- the operation visitor returns its argument with other children, or one of the kinds in `built` -/
theorem visit_shape (cfg : Config) (f : Nat) (root : Bool) (n : Node) (s : St) :
    (∃ ks, (visit cfg f root n s).1 = n.withKids ks) ∨ built (visit cfg f root n s).1 = true := by
  cases f with
  | zero => exact Or.inl ⟨n.kids, n.withKids_kids.symm⟩
  | succ f =>
    -- the arms are unfolded in a hypothesis about the result `R`: rewriting the goal, where the call occurs
    -- twice and under a binder, costs several times as much
    generalize hR : (visit cfg (f + 1) root n s).1 = R
    have kids : ∀ g s, ∃ ks, (mapKidsM mapM' g n s).1 = n.withKids ks := fun g s => ⟨_, rfl⟩
    by_cases hO : ownArm n = false
    · rw [visit_default cfg f root hO] at hR
      exact hR ▸ Or.inl (kids _ _)
    cases n with
    | ident nm sp => exact Or.inl ⟨[], hR.symm⟩
    | block ss sp => exact Or.inl ⟨ss, hR.symm⟩
    | bin op l r sp =>
      rw [visit_bin] at hR
      by_cases hp : cfg.plusEnabled = true
      · rw [if_pos hp, run_bind] at hR
        obtain ⟨ks, hk⟩ := kids (visit cfg f false) s
        generalize mapKidsM mapM' (visit cfg f false) (Node.bin op l r sp) s = K at hR hk
        obtain ⟨n1, s1⟩ := K
        by_cases ho : (op == "+") = true
        · rw [if_pos ho] at hR; simp only [run_bind, run_pure] at hR; rw [finish_fst] at hR
          subst hR
          exact shape_getD ⟨ks, hk⟩ fun e he => isDd_built (toDdBinary_isDd cfg n1 s1 e he)
        · rw [if_neg ho] at hR; simp only [run_bind, run_pure] at hR; rw [finish_fst] at hR
          subst hR
          exact Or.inl ⟨ks, hk⟩
      · rw [if_neg hp] at hR
        exact hR ▸ Or.inl (kids _ _)
    | assign op l r sp =>
      rw [visit_assign] at hR
      by_cases hp : cfg.plusEnabled = true
      · rw [if_pos hp, run_bind] at hR
        obtain ⟨ks, hk⟩ := kids (visit cfg f false) s
        generalize mapKidsM mapM' (visit cfg f false) (Node.assign op l r sp) s = K at hR hk
        obtain ⟨n1, s1⟩ := K
        by_cases ho : (op == "+=") = true
        · rw [if_pos ho] at hR; simp only [run_bind, run_pure] at hR; rw [finish_fst] at hR
          subst hR
          refine shape_getD ⟨ks, hk⟩ fun e he => ?_
          obtain ⟨t, d, sp', rfl, _⟩ := toDdAssign_shape cfg n1 s1 e he
          rfl
        · rw [if_neg ho] at hR; simp only [run_bind, run_pure] at hR; rw [finish_fst] at hR
          subst hR
          exact Or.inl ⟨ks, hk⟩
      · rw [if_neg hp] at hR
        exact hR ▸ Or.inl (kids _ _)
    | tpl es qs sp =>
      rw [visit_tpl] at hR
      by_cases hp : cfg.tplEnabled = true
      · rw [if_pos hp] at hR
        by_cases hq : (!es.isEmpty && es.all fun e => !e.isLit) = true
        · rw [if_pos hq, run_bind] at hR
          obtain ⟨ks, hk⟩ := kids (visit cfg f false) s
          generalize mapKidsM mapM' (visit cfg f false) (Node.tpl es qs sp) s = K at hR hk
          obtain ⟨n1, s1⟩ := K
          simp only [run_bind] at hR
          rw [finish_fst] at hR
          subst hR
          exact shape_getD ⟨ks, hk⟩ fun e he => isDd_built (toDdTpl_isDd cfg n1 s1 e he)
        · rw [if_neg hq] at hR
          exact hR ▸ Or.inl ⟨_, (Node.withKids_kids _).symm⟩
      · rw [if_neg hp] at hR
        exact hR ▸ Or.inl (kids _ _)
    | call c as sp =>
      rw [visit_call, run_bind] at hR
      obtain ⟨ks, hk⟩ := kids (visit cfg f false) s
      generalize mapKidsM mapM' (visit cfg f false) (Node.call c as sp) s = K at hR hk
      obtain ⟨n1, s1⟩ := K
      dsimp only at hR
      split at hR
      · split at hR
        · simp only [run_bind, run_pure] at hR
          rw [finish_fst] at hR
          exact hR ▸ Or.inl ⟨ks, hk⟩
        · rw [run_bind] at hR
          generalize hX : toDdCall cfg _ s1 = X at hR
          obtain ⟨res, s2⟩ := X
          cases res with
          | none =>
            simp only [run_bind, run_pure] at hR
            rw [finish_fst] at hR
            exact hR ▸ Or.inl ⟨ks, hk⟩
          | some et =>
            simp only [run_bind, run_pure] at hR
            rw [finish_fst] at hR
            exact hR ▸ Or.inr (isDd_built (toDdCall_isDd cfg _ s1 et.1 et.2 (by rw [hX])))
      · simp only [run_bind, run_pure] at hR
        rw [finish_fst] at hR
        exact hR ▸ Or.inl ⟨ks, hk⟩
    | optChain o b sp =>
      rw [visit_optChain, run_bind] at hR
      have hc := toDdCond_shape cfg f (Node.optChain o b sp) s
      generalize toDdCond cfg f (Node.optChain o b sp) s = C at hc hR
      obtain ⟨⟨e', res⟩, s1⟩ := C
      dsimp only at hc
      dsimp only at hR
      rw [run_bind, finish_fst, mapKidsM_fst] at hR
      subst hR
      right
      rw [built_withKids]
      cases res with
      | none => exact hc.1.elim (fun e => e ▸ rfl) id
      | some r => exact hc.2 r rfl
    | unary op a sp =>
      rw [visit_unary] at hR
      by_cases hd : isDelete op = true
      · rw [if_pos hd] at hR
        exact hR ▸ Or.inl ⟨_, (Node.withKids_kids _).symm⟩
      · rw [if_neg hd] at hR
        exact hR ▸ Or.inl (kids _ _)
    | arrow ps b at' sp =>
      subst hR
      right
      rw [visit_arrow, run_pure]
      unfold toDdArrow
      dsimp only
      split <;> rfl
    | _ => exact (hO rfl).elim

/-- a predicate that only looks at a node's constructor and is false on what the visitor builds stays
    false under the operation visitor -/
theorem visit_keeps_false {p : Node → Bool} (hk : ∀ n ks, p (n.withKids ks) = p n)
    (hb : ∀ r, built r = true → p r = false) (cfg : Config) (f : Nat) (root : Bool) (n : Node) (s : St)
    (h : p n = false) : p (visit cfg f root n s).1 = false := by
  rcases visit_shape cfg f root n s with ⟨ks, e⟩ | e
  · rw [e, hk]; exact h
  · exact hb _ e

/-- the operation visitor never turns something that is not an identifier / literal into one, and
    returns identifiers and literals as they are -/
theorem visit_leaf (cfg : Config) : ∀ (f : Nat) (root : Bool) (n : Node) (s : St),
    (leaf n = false → leaf (visit cfg f root n s).1 = false) ∧
    (leaf n = true → (visit cfg f root n s).1 = n) := by
  intro f root n s
  refine ⟨visit_keeps_false withKids_leaf (fun _ => built_not_leaf) cfg f root n s, fun h => ?_⟩
  cases f with
  | zero => rfl
  | succ f =>
    cases n with
    | ident nm sp => rfl
    | lit k v r sp => rfl
    | _ => exact Bool.noConfusion h

end IastModel
