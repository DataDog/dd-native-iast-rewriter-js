import IastModel.Lemmas.Temps
namespace IastModel
open Node

/-- the set of temporaries to declare only grows -/
def IdSub (s s' : St) : Prop := ∀ k ∈ s.idents, k ∈ s'.idents

theorem IdSub.refl (s : St) : IdSub s s := fun _ h => h
theorem IdSub.trans {a b c : St} (h1 : IdSub a b) (h2 : IdSub b c) : IdSub a c := fun k h => h2 k (h1 k h)

theorem tgood_lift {s s' : St} (h : IdSub s s') {n : Node} (hg : tgood s.idents n = true) : tgood s'.idents n = true :=
  tgood_mono h n hg
theorem tgoodL_lift {s s' : St} (h : IdSub s s') {l : List Node} (hg : tgoodL s.idents l = true) : tgoodL s'.idents l = true :=
  tgoodL_mono h l hg

theorem registerIdent_ids (n : Nat) (s : St) : IdSub s (registerIdent n s).2 ∧ n ∈ (registerIdent n s).2.idents := by
  simp only [registerIdent, run_modify]
  by_cases h : s.idents.contains n = true
  · rw [if_pos h]; exact ⟨IdSub.refl s, by simpa using h⟩
  · rw [if_neg h]; exact ⟨fun k hk => by simp [hk], by simp⟩

theorem getTemporalIdent_casesT (operand : Node) (asg : List Node) (sp : Span) (k : IdentKind) (s : St) :
    (operand.isLit = true ∧ getTemporalIdent operand asg sp k s = ((none, asg), s)) ∨
    (operand.isLit = false ∧ ∃ n s', getTemporalIdent operand asg sp k s =
        ((some n, asg ++ [.assign "=" (tempIdent n) (assignRight operand k) sp]), s') ∧ IdSub s s' ∧ n ∈ s'.idents) := by
  unfold getTemporalIdent
  by_cases hl : operand.isLit = true
  · left; simp [hl, run_pure]
  · right
    simp only [Bool.not_eq_true] at hl
    refine ⟨hl, ?_⟩
    simp only [hl, Bool.false_eq_true, if_false, run_bind, run_pure]
    have := registerIdent_ids (nextIdent s).1 (nextIdent s).2
    refine ⟨_, _, rfl, ?_, this.2⟩
    exact IdSub.trans (fun k hk => hk) this.1

theorem getIdentUsed_casesT (operand : Node) (asg args : List Node) (sp : Span) (k : IdentKind) (s : St) :
    (operand.isLit = true ∧ getIdentUsed operand asg args sp k s = ((none, asg, args ++ [exprOrSpread operand k]), s)) ∨
    (operand.isLit = false ∧ ∃ n s', getIdentUsed operand asg args sp k s =
        ((some n, asg ++ [.assign "=" (tempIdent n) (assignRight operand k) sp], args ++ [exprOrSpread (tempIdent n) k]), s') ∧
        IdSub s s' ∧ n ∈ s'.idents) := by
  unfold getIdentUsed
  rcases getTemporalIdent_casesT operand asg sp k s with ⟨hl, h⟩ | ⟨hl, n, s', h, hi, hn⟩
  · left; simp [hl, run_bind, run_pure, h]
  · right; exact ⟨hl, n, s', by simp [run_bind, run_pure, h], hi, hn⟩

theorem tgood_assignRight (σ) (e : Node) (k : IdentKind) : tgood σ (assignRight e k) = tgood σ e := by
  cases k <;> simp [assignRight]
theorem tgood_exprOrSpread (σ) (e : Node) (k : IdentKind) : tgood σ (exprOrSpread e k) = tgood σ e := by
  cases k <;> simp [exprOrSpread]

theorem tgoodL_hoist {s s' : St} (hi : IdSub s s') {n : Nat} (hn : n ∈ s'.idents) {operand : Node} {asg : List Node}
    (h0 : tgood s.idents operand = true) (ha : tgoodL s.idents asg = true) (k : IdentKind) (sp : Span) :
    tgoodL s'.idents (asg ++ [.assign "=" (tempIdent n) (assignRight operand k) sp]) = true := by
  simp [tgoodL_lift hi ha, hn, tgood_assignRight, tgood_lift hi h0]

/-- what every operand-handler function guarantees about temporaries -/
def OpT (e : Node) (asg args : List Node) (R : (Node × List Node × List Node) × St) (s : St) : Prop :=
  tgood s.idents e = true → tgoodL s.idents asg = true → tgoodL s.idents args = true →
    tgood R.2.idents R.1.1 = true ∧ tgoodL R.2.idents R.1.2.1 = true ∧ tgoodL R.2.idents R.1.2.2 = true ∧ IdSub s R.2

def OpTL (xs : List Node) (asg args : List Node) (R : (List Node × List Node × List Node) × St) (s : St) : Prop :=
  tgoodL s.idents xs = true → tgoodL s.idents asg = true → tgoodL s.idents args = true →
    tgoodL R.2.idents R.1.1 = true ∧ tgoodL R.2.idents R.1.2.1 = true ∧ tgoodL R.2.idents R.1.2.2 = true ∧ IdSub s R.2

theorem opT_id (e : Node) (asg args : List Node) (s : St) : OpT e asg args ((e, asg, args), s) s :=
  fun he ha hg => ⟨he, ha, hg, IdSub.refl s⟩

theorem opT_push (e : Node) (asg args : List Node) (s : St) (x : Node) (hx : tgood s.idents e = true → tgood s.idents x = true) :
    OpT e asg args ((e, asg, args ++ [x]), s) s := by
  intro he ha hg
  exact ⟨he, ha, by simp [hg, hx he], IdSub.refl s⟩

theorem opT_arg (spread : Option Span) (e : Node) (asg args : List Node) (s : St) (R : (Node × List Node × List Node) × St)
    (h : OpT e asg args R s) : OpT (.arg spread e) asg args ((.arg spread R.1.1, R.1.2.1, R.1.2.2), R.2) s := by
  intro he ha hg
  rw [tgood_arg] at he ⊢
  exact h he ha hg

theorem replaceDefault_T (e : Node) (asg args : List Node) (sp : Span) (k : IdentKind) (s : St) :
    OpT e asg args (replaceDefault e asg args sp k s) s := by
  intro he ha hg
  unfold replaceDefault
  simp only [run_bind, run_pure]
  rcases getIdentUsed_casesT e asg args sp k s with ⟨hl, h⟩ | ⟨hl, n, s', h, hi, hn⟩
  · rw [h]; exact ⟨he, ha, by simp [hg, tgood_exprOrSpread, he], IdSub.refl s⟩
  · rw [h]
    exact ⟨by simp [hn], tgoodL_hoist hi hn he ha k sp, by simp [tgoodL_lift hi hg, tgood_exprOrSpread, hn], hi⟩

theorem replaceExprNoExpand_T (e : Node) (mode : IdentMode) (asg args : List Node) (sp : Span) (k : IdentKind) (s : St) :
    OpT e asg args (replaceExprNoExpand e mode asg args sp k s) s := by
  have push : OpT e asg args ((e, asg, args ++ [exprOrSpread e k]), s) s :=
    opT_push e asg args s _ (by rw [tgood_exprOrSpread]; exact id)
  unfold replaceExprNoExpand
  split
  · exact push
  · split
    · exact replaceDefault_T _ _ _ _ _ _
    · exact push
  · split
    · exact replaceDefault_T _ _ _ _ _ _
    · split
      · exact push
      · exact opT_id _ _ _ _
  · exact replaceDefault_T _ _ _ _ _ _

theorem replaceArgNoExpand_T (a : Node) (mode : IdentMode) (asg args : List Node) (sp : Span) (s : St) :
    OpT a asg args (replaceArgNoExpand a mode asg args sp s) s := by
  unfold replaceArgNoExpand
  split
  · exact opT_arg _ _ _ _ _ _ (replaceExprNoExpand_T _ mode asg args sp _ s)
  · exact opT_id _ _ _ _

theorem replaceElem_T (a : Node) (mode : IdentMode) (asg args : List Node) (sp : Span) (s : St) :
    OpT a asg args (replaceElem a mode asg args sp s) s := by
  unfold replaceElem
  split
  · exact replaceArgNoExpand_T _ mode asg args sp s
  · exact opT_push _ _ _ _ _ (fun _ => by simp [voidZero])


/-- a list traversal that threads the assignments and arguments through an operand handler `g` keeps
    what `g` keeps; `gs` is given by its two equations -/
theorem opTL_list (g : Node → List Node → List Node → M (Node × List Node × List Node))
    (gs : List Node → List Node → List Node → M (List Node × List Node × List Node))
    (hnil : ∀ asg args, gs [] asg args = pure ([], asg, args))
    (hcons : ∀ x xs asg args, gs (x :: xs) asg args = do
      let (x', asg1, args1) ← g x asg args
      let (xs', asg2, args2) ← gs xs asg1 args1
      pure (x' :: xs', asg2, args2))
    (hg : ∀ x asg args s, OpT x asg args (g x asg args s) s) :
    ∀ (xs asg args : List Node) (s : St), OpTL xs asg args (gs xs asg args s) s := by
  intro xs
  induction xs with
  | nil => intro asg args s _ ha hg; rw [hnil]; exact ⟨rfl, ha, hg, IdSub.refl s⟩
  | cons x xs ih =>
    intro asg args s hx ha hg'
    rw [tgoodL_cons, Bool.and_eq_true] at hx
    rw [hcons]
    simp only [run_bind, run_pure]
    obtain ⟨g1, g2, g3, i1⟩ := hg x asg args s hx.1 ha hg'
    obtain ⟨k1, k2, k3, i2⟩ := ih _ _ _ (tgoodL_lift i1 hx.2) g2 g3
    exact ⟨by rw [tgoodL_cons, tgood_lift i2 g1, k1]; rfl, k2, k3, IdSub.trans i1 i2⟩

theorem replaceElems_T (mode : IdentMode) (sp : Span) : ∀ (xs asg args : List Node) (s : St),
    OpTL xs asg args (replaceElems mode sp xs asg args s) s :=
  opTL_list (fun a b c => replaceElem a mode b c sp) (replaceElems mode sp) (fun _ _ => rfl) (fun _ _ _ _ => rfl)
    (fun x asg args s => replaceElem_T x mode asg args sp s)

theorem replaceExpr_T (e : Node) (mode : IdentMode) (asg args : List Node) (sp : Span) (k : IdentKind)
    (expand : Bool) (s : St) : OpT e asg args (replaceExpr e mode asg args sp k expand s) s := by
  unfold replaceExpr
  split
  · intro he ha hg
    rw [tgood_array] at he
    exact (tgood_array _ _ _).symm ▸ replaceElems_T mode sp _ asg args s he ha hg
  · exact replaceExprNoExpand_T e mode asg args sp k s

theorem replaceArg_T (a : Node) (mode : IdentMode) (asg args : List Node) (sp : Span) (expand : Bool) (s : St) :
    OpT a asg args (replaceArg a mode asg args sp expand s) s := by
  unfold replaceArg
  split
  · exact opT_arg _ _ _ _ _ _ (replaceExpr_T _ mode asg args sp _ expand s)
  · exact opT_id _ _ _ _

theorem replaceArgs_T (mode : IdentMode) (sp : Span) (expand : Bool) : ∀ (xs asg args : List Node) (s : St),
    OpTL xs asg args (replaceArgs mode sp expand xs asg args s) s :=
  opTL_list (fun a b c => replaceArg a mode b c sp expand) (replaceArgs mode sp expand) (fun _ _ => rfl)
    (fun _ _ _ _ => rfl) (fun x asg args s => replaceArg_T x mode asg args sp expand s)

theorem tgood_tplOperand (σ) (x : Node) : tgood σ (tplOperand x) = tgood σ x := by
  unfold tplOperand; split <;> simp

theorem replaceTplExprs_T : ∀ (xs asg args : List Node) (s : St),
    OpTL xs asg args (replaceTplExprs xs asg args s) s :=
  opTL_list (fun a b c => replaceExpr (tplOperand a) .replace b c a.span .expr false) replaceTplExprs (fun _ _ => rfl)
    (fun _ _ _ _ => rfl)
    (fun x asg args s he => replaceExpr_T (tplOperand x) .replace asg args x.span .expr false s (by rw [tgood_tplOperand]; exact he))

end IastModel
