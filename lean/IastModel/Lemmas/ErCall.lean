import IastModel.Lemmas.ErAssign
import IastModel.Lemmas.CallCases
namespace IastModel
open Node

/-- the receiver of an instrumented call: a literal stays where it is, anything else goes into a temporary -/
theorem recv_Er (cx : Cx) (lo hi : Nat) (obj' obj : Node) (csp : Span) (s : St) (hE : Er cx lo hi obj' obj) :
    let R := getTemporalIdent obj' [] csp .expr s
    let idR := match R.1.1 with | some n => tempIdent n | none => obj'
    s.counter ≤ R.2.counter ∧ AllTA R.1.2 ∧ Inert idR ∧ noBlk idR = true ∧
    ∀ asg0'', BRgL R.1.2 asg0'' → ∀ σ, cx.ext σ → ∃ X Δ0, eraseAsg σ asg0'' = Δ0 ++ σ ∧ ESim X obj ∧
      WinU lo hi s.counter R.2.counter Δ0 ∧
      ∀ Δ2, Avoid s.counter R.2.counter Δ2 → erase (Δ2 ++ (Δ0 ++ σ)) idR = (X, Δ2 ++ (Δ0 ++ σ)) := by
  rcases getTemporalIdent_casesC obj' [] csp .expr s with ⟨hl, h⟩ | ⟨_, s0, h, hc⟩ <;> rw [h] <;> dsimp only
  · refine ⟨Nat.le_refl _, AllTA.nil, inert_lit hl, isLit_noBlk hl, ?_⟩
    intro asg0'' ha σ hσ
    rw [BRgL.nil_inv ha]
    obtain ⟨X, Δ, eX, sX, _⟩ := hE _ (BRg.refl _) σ hσ
    have hlit : ∀ σ', erase σ' obj' = (obj', σ') := by
      intro σ'
      unfold Node.isLit at hl
      split at hl
      · rfl
      · cases hl
    have : X = obj' := by rw [hlit] at eX; exact (congrArg Prod.fst eX).symm
    subst this
    exact ⟨X, [], rfl, sX, WinU.nil _ _ _ _, fun Δ2 _ => hlit _⟩
  · refine ⟨by omega, allTA_single _ _ _, inert_temp _ _, noBlk_tempIdent _, ?_⟩
    intro asg0'' ha σ hσ
    obtain ⟨a'', rfl, ha2⟩ := BRgL.single_inv ha
    obtain ⟨X, Δe, eX, sX, wX⟩ := tempAssign_Er hE _ .expr csp a'' ha2 σ hσ
    refine ⟨X, (s.counter, X) :: Δe, by simp only [eraseAsg, eX]; rfl, sX, ?_, ?_⟩
    · exact WinU.cons_key X wX (Nat.le_refl _) (by rw [hc]; exact Nat.lt_succ_self _)
    · intro Δ2 hav
      exact erase_temp_bound hav (Nat.le_refl _) (by rw [hc]; exact Nat.lt_succ_self _) X _

theorem erase_call_viaTemp (σ : Env) (t : Nat) (isp : Span) (ca : String) (casp msp : Span) (args : List Node) (sp : Span)
    (f : Node) (hf : σ.get t = some f) :
    erase σ (.call (.member (.ident (.temp t) isp) (.pname ca casp) msp) args sp) =
      (resolveCall f ca casp msp (eraseL σ args).1 sp, (eraseL σ args).2) := by
  simp only [erase, calleeKind, hf]

theorem erase_call_plain (σ : Env) (c : Node) (args : List Node) (sp : Span) (h : calleeKind c = .plain) :
    erase σ (.call c args sp) =
      (.call (erase σ c).1 (eraseL (erase σ c).2 args).1 sp, (eraseL (erase σ c).2 args).2) := by
  simp only [erase, h]

theorem eraseL_cons' (σ : Env) (x : Node) (xs : List Node) :
    eraseL σ (x :: xs) = ((erase σ x).1 :: (eraseL (erase σ x).2 xs).1, (eraseL (erase σ x).2 xs).2) := by
  simp only [eraseL]

/-- what each form of the call transform establishes: the counter does not go down, and a replacement erases to `src` -/
abbrev CallEr (cx : Cx) (lo : Nat) (s : St) (src : Node) (R : Option (Node × String) × St) : Prop :=
  s.counter ≤ R.2.counter ∧ ∀ e1 tag, R.1 = some (e1, tag) → Er cx lo R.2.counter e1 src

/-- `replace_call_expr_if_csi_method_with_member` after the receiver has been handled -/
def callTail (csi : CsiMethod) (expr : Node) (method : String) (msp : Span) (callee : Node) (cargs : List Node) (csp : Span)
    (memberOpt : Option Node) (callOrApply : Option String) (idR : Node) (asg0 : List Node) : M (Option (Node × String)) := do
  let memberExpr := match memberOpt with
    | some m => m
    | none => Node.member idR (.pname method msp) csp
  let (identCallee, asg1, args1) ← getIdentUsed memberExpr asg0 [] csp .expr
  let args2 := args1 ++ [.arg none idR]
  let calleeExpr := match identCallee with
    | some n => tempIdent n
    | none => expr
  let (callRepl, asg3, args3) ← replaceCallCalleeAndArgs callee cargs csp (some calleeExpr) asg1 args2 callOrApply
  pure (some (ddParen (insertThis callRepl idR) args3 asg3 csi.dst csp, method))

theorem replaceCallWithMember_eq (cfg : Config) (expr : Node) (method : String) (msp : Span) (callee : Node)
    (cargs : List Node) (csp : Span) (memberOpt : Option Node) (callOrApply : Option String) (s : St) :
    replaceCallWithMember cfg expr method msp callee cargs csp memberOpt callOrApply s =
      match cfg.get method with
      | none => (none, s)
      | some csi =>
        callTail csi expr method msp callee cargs csp memberOpt callOrApply
          (match (getTemporalIdent expr [] csp .expr s).1.1 with | some n => tempIdent n | none => expr)
          (getTemporalIdent expr [] csp .expr s).1.2 (getTemporalIdent expr [] csp .expr s).2 := by
  unfold replaceCallWithMember callTail
  cases cfg.get method with
  | none => rfl
  | some csi => simp only [run_bind, run_pure]; rfl

/-- the erasure of the call through the hoisted function value -/
theorem viaTemp_core (σf Δ3 : Env) (t1 : Nat) (ca : String) (csp : Span) (idR F X : Node) (xs Xs : List Node)
    (hget : σf.get t1 = some F)
    (hthis : erase σf idR = (X, σf))
    (hxs : eraseL σf xs = (Xs, Δ3 ++ σf)) :
    erase σf (.call (.member (tempIdent t1) (.pname ca csp) csp) (.arg none idR :: xs) csp) =
      (resolveCall F ca csp csp (.arg none X :: Xs) csp, Δ3 ++ σf) := by
  simp only [tempIdent]
  rw [erase_call_viaTemp _ _ _ _ _ _ _ _ _ hget, eraseL_cons']
  simp only [erase, hthis, hxs]

theorem noBlk_memberE {o p : Node} {sp : Span} (ho : noBlk o = true) (hp : noBlk p = true) : noBlk (.member o p sp) = true := by
  rw [noBlk_eq]
  simp only [isBlockNode, kids, noBlkL_cons, noBlkL_nil, ho, hp]
  rfl

/-- the hook call over arguments handled by `replaceArgs`, after earlier assignments `asgP`: once those are erased
    (to `Δp`), the whole erases as the call node does in the environment the new assignments leave, and there the
    handled arguments erase to the source arguments -/
theorem hookCall_args {cx : Cx} {lo hi : Nat} {es asgP argsP xs asg3 args3 : List Node} {s1 s3 : St}
    (hL : OpErL cx lo hi es asgP argsP ((xs, asg3, args3), s3) s1)
    (taP : AllTA asgP) (inP : InertL argsP) (nbP : noBlkL argsP = true)
    {c : Node} {pre : List Node} (nbc : noBlk c = true) (nbpre : noBlkL pre = true)
    {dst : String} {csp : Span} {m : Node}
    (hbr : BRg (ddParen (.call c (pre ++ xs) csp) args3 asg3 dst csp) m) :
    ∃ asgP'' xs'', BRgL asgP asgP'' ∧ ∀ σ Δp, cx.ext σ → eraseAsg σ asgP'' = Δp ++ σ → cx.ext (Δp ++ σ) →
      ∃ Δa Xs Δ3, erase σ m = erase (Δa ++ (Δp ++ σ)) (.call c (pre ++ xs'') csp) ∧
        eraseL (Δa ++ (Δp ++ σ)) xs'' = (Xs, Δ3 ++ (Δa ++ (Δp ++ σ))) ∧ SimL Xs es ∧ Win lo hi Δ3 ∧
        WinU lo hi s1.counter s3.counter Δa := by
  obtain ⟨new, more, ea, eg, ta, inn, nb, -, A, B⟩ := hL
  dsimp only at ea eg A B
  subst ea eg
  obtain ⟨first'', asg3'', rfl, hfirst, hasg⟩ := ddParen_BRg_inv hbr (by rw [noBlkL_append, nbP, nb]; rfl)
  obtain ⟨c'', as'', rfl, hcc, has⟩ := hfirst.call_inv
  obtain ⟨pre'', xs'', rfl, hpre, hxs⟩ := BRgL.append_inv has
  rw [BRg_noBlk nbc hcc, BRgL_noBlk nbpre hpre]
  obtain ⟨asgP'', new'', rfl, hP, hnew⟩ := BRgL.append_inv hasg
  refine ⟨asgP'', xs'', hP, ?_⟩
  intro σ Δp hσ eP hσ1
  obtain ⟨Δa, eA, wA⟩ := A new'' hnew _ hσ1
  obtain ⟨Xs, Δ3, eXs, sXs, wXs⟩ := B new'' xs'' hnew hxs _ [] hσ1 (Avoid.nil _ _) (AvoidP.nil _)
  simp only [List.nil_append] at eXs
  rw [eA] at eXs
  refine ⟨Δa, Xs, Δ3, ?_, eXs, sXs, wXs, wA⟩
  rw [erase_ddParen _ _ _ _ _ _ (InertL.append inP inn) (AllTA.append (taP.BRg hP) (ta.BRg hnew)), eraseAsg_append, eP, eA]

/-- the instrumented call `(t0 = this, t1 = f, hook(t1.call(t0, args…), t1, t0, args…))`, `f` the member expression:
    it erases to what `resolveCall` makes of the erased function value, this-argument and arguments -/
theorem callTail_Er (csi : CsiMethod) (cx : Cx) (lo hi : Nat) (expr thisSrc : Node) (method : String) (msp : Span)
    (callee' : Node) (rest' rest : List Node) (csp : Span) (memberOpt : Option Node) (callOrApply : Option String)
    (src : Node) (s s0 : St) (idR : Node) (asg0 : List Node)
    (hw : HypW cx hi s) (hlo : lo ≤ s.counter)
    (ha : Forall2 (fun a' a => Er cx lo hi a' a ∧ DeepEr cx lo hi a' a) rest' rest)
    (c0 : s.counter ≤ s0.counter) (ta0 : AllTA asg0) (inR : Inert idR) (nbR : noBlk idR = true)
    (P0 : ∀ asg0'', BRgL asg0 asg0'' → ∀ σ, cx.ext σ → ∃ X Δ0, eraseAsg σ asg0'' = Δ0 ++ σ ∧ ESim X thisSrc ∧
        WinU lo hi s.counter s0.counter Δ0 ∧
        ∀ Δ2, Avoid s.counter s0.counter Δ2 → erase (Δ2 ++ (Δ0 ++ σ)) idR = (X, Δ2 ++ (Δ0 ++ σ)))
    (hmnl : (memberOpt.getD (.member idR (.pname method msp) csp)).isLit = false)
    (hM : ∀ mem'', BRg (memberOpt.getD (.member idR (.pname method msp) csp)) mem'' → ∀ σ' X, cx.ext σ' →
        ESim X thisSrc → erase σ' idR = (X, σ') → ∃ F Δm, erase σ' mem'' = (F, Δm ++ σ') ∧ noSp F ∧ Win lo hi Δm ∧
          ∀ Xs, SimL Xs rest →
            ESim (resolveCall F (callOrApply.getD Generated.callMethodName) csp csp (.arg none X :: Xs) csp) src) :
    CallEr cx lo s src (callTail csi expr method msp callee' rest' csp memberOpt callOrApply idR asg0 s0) := by
  unfold callTail
  have hmo : ∀ mo : Option Node, (match mo with | some m => m | none => Node.member idR (.pname method msp) csp) =
      mo.getD (.member idR (.pname method msp) csp) := by intro mo; cases mo <;> rfl
  simp only [run_bind, run_pure, hmo]
  generalize memberOpt.getD (.member idR (.pname method msp) csp) = mem at hmnl hM ⊢
  rcases getIdentUsed_casesC mem asg0 [] csp .expr s0 with ⟨hl, _⟩ | ⟨_, s1, h1, c1⟩
  · rw [hmnl] at hl; cases hl
  rw [h1]
  have hbc : s0.counter < s1.counter := c1 ▸ Nat.lt_succ_self _
  have hL := replaceArgs_Er cx lo hi .replace csp (callOrApply.getD Generated.callMethodName == Generated.applyMethodName)
    rest' rest (asg0 ++ [.assign "=" (tempIdent s0.counter) (assignRight mem .expr) csp])
    ([] ++ [exprOrSpread (tempIdent s0.counter) .expr] ++ [.arg none idR]) s1
    (hw.mono (Nat.le_trans c0 (Nat.le_of_lt hbc))) ha
  unfold replaceCallCalleeAndArgs
  simp only [run_bind, run_pure]
  generalize replaceArgs .replace csp (callOrApply.getD Generated.callMethodName == Generated.applyMethodName) rest'
    (asg0 ++ [.assign "=" (tempIdent s0.counter) (assignRight mem .expr) csp])
    ([] ++ [exprOrSpread (tempIdent s0.counter) .expr] ++ [.arg none idR]) s1 = RA at hL ⊢
  obtain ⟨⟨xs, asg3, args3⟩, s3⟩ := RA
  have c3 : s1.counter ≤ s3.counter := hL.counter_le
  refine ⟨Nat.le_trans c0 (Nat.le_trans (Nat.le_of_lt hbc) c3), ?_⟩
  intro e1 tag he
  simp only [Option.some.injEq, Prod.mk.injEq] at he
  obtain ⟨rfl, -⟩ := he
  intro m hbr σ hσ
  simp only [insertThis] at hbr
  obtain ⟨asgP'', xs'', hP, H⟩ := hookCall_args hL (ta0.append (allTA_single _ _ _))
    (InertL.append (inertL_single (inert_exprOrSpread _ (inert_temp _ _))) (inertL_single (inert_arg inR)))
    (by simp only [List.nil_append, noBlkL_append, noBlkL_cons, noBlkL_nil,
      noBlk_exprOrSpreadE .expr (noBlk_tempIdent _), noBlk_argE nbR]; rfl)
    (pre := [.arg none idR]) (noBlk_memberE (noBlk_tempIdent _) (noBlk_pname _ _))
    (by simp only [noBlkL_cons, noBlkL_nil, noBlk_argE nbR]; rfl) hbr
  obtain ⟨asg0'', k2, rfl, h0, hk2⟩ := BRgL.append_inv hP
  obtain ⟨am'', rfl, ham⟩ := BRgL.single_inv hk2
  obtain ⟨mem'', rfl, hmem''⟩ := tempAssign_BRg_inv ham
  obtain ⟨X, Δ0, e0, sX, w0, R0⟩ := P0 asg0'' h0 σ hσ
  have hσ0 : cx.ext (Δ0 ++ σ) := Cx.ext_append hσ (w0.avoidCx hw)
  obtain ⟨F, Δm, eF, nF, wF, hres⟩ := hM mem'' hmem'' _ X hσ0 sX (R0 [] (Avoid.nil _ _))
  -- after the this-argument and the function value are bound
  have hmem : eraseAsg σ (asg0'' ++ [.assign "=" (tempIdent s0.counter) (assignRight mem'' .expr) csp])
      = ([(s0.counter, F)] ++ Δm ++ Δ0) ++ σ := by
    rw [eraseAsg_append, e0]
    simp only [eraseAsg]
    rw [erase_tempAssign]
    obtain ⟨a, b⟩ := erase_assignRight (Δ0 ++ σ) (Δm ++ (Δ0 ++ σ)) mem'' F .expr eF nF
    rw [a, b]
    simp only [List.cons_append, List.nil_append, List.append_assoc]
  obtain ⟨Δa, Xs, Δ3, em, eXs, sXs, wXs, wA⟩ := H σ _ hσ hmem
    (by rw [List.append_assoc]; exact Cx.ext_append hσ0 (AvoidP.hoisted hw c0 F wF))
  refine ⟨_, Δ3 ++ Δa ++ [(s0.counter, F)] ++ Δm ++ Δ0, ?_, hres Xs sXs, Win.hoisted F wXs wA wF w0 hlo hw.h3 c0 hbc c3⟩
  have hthis := R0 (Δa ++ [(s0.counter, F)] ++ Δm) (Avoid.hoisted F wA wF hw.h3 hbc)
  simp only [List.cons_append, List.nil_append, List.append_assoc] at em eXs hthis ⊢
  rw [em, viaTemp_core _ Δ3 _ _ _ _ _ _ _ _ (Env.get_hoisted wA (Nat.le_trans hw.h3 c0) hbc F _) hthis eXs]

theorem none_Er (cx : Cx) (lo : Nat) (s : St) (src : Node) : CallEr cx lo s src (none, s) :=
  ⟨Nat.le_refl _, by intro e1 tag he; cases he⟩

/-- `replace_call_expr_if_csi_method_with_member`: the receiver stays where it is (a literal) or goes into a
    temporary, and `callTail` does the rest -/
theorem replaceCallWithMember_Er (cfg : Config) (cx : Cx) (lo hi : Nat) (expr thisSrc : Node) (method : String) (msp : Span)
    (callee' : Node) (rest' rest : List Node) (csp : Span) (memberOpt : Option Node) (callOrApply : Option String)
    (src : Node) (s : St) (hw : HypW cx hi s) (hlo : lo ≤ s.counter) (hE : Er cx lo hi expr thisSrc)
    (ha : Forall2 (fun a' a => Er cx lo hi a' a ∧ DeepEr cx lo hi a' a) rest' rest)
    (hmnl : ∀ idR, (memberOpt.getD (.member idR (.pname method msp) csp)).isLit = false)
    (hM : ∀ idR, noBlk idR = true → ∀ mem'', BRg (memberOpt.getD (.member idR (.pname method msp) csp)) mem'' →
        ∀ σ' X, cx.ext σ' → ESim X thisSrc → erase σ' idR = (X, σ') →
        ∃ F Δm, erase σ' mem'' = (F, Δm ++ σ') ∧ noSp F ∧ Win lo hi Δm ∧
          ∀ Xs, SimL Xs rest →
            ESim (resolveCall F (callOrApply.getD Generated.callMethodName) csp csp (.arg none X :: Xs) csp) src) :
    CallEr cx lo s src
      (replaceCallWithMember cfg expr method msp callee' rest' csp memberOpt callOrApply s) := by
  rw [replaceCallWithMember_eq]
  cases cfg.get method with
  | none => exact none_Er cx lo s _
  | some csi =>
    simp only
    obtain ⟨c0, ta0, inR, nbR, P0⟩ := recv_Er cx lo hi expr thisSrc csp s hE
    exact callTail_Er csi cx lo hi expr thisSrc method msp callee' rest' rest csp memberOpt callOrApply src s _ _ _
      hw hlo ha c0 ta0 inR nbR P0 (hmnl _) (hM _ nbR)

/-- a plain method call: `(t0 = recv, t1 = t0.m, hook(t1.call(t0, args…), t1, t0, args…))` erases to `recv.m(args…)` -/
theorem replaceCallWithMember_plain_Er (cfg : Config) (cx : Cx) (lo hi : Nat) (obj' obj : Node) (method : String) (msp : Span)
    (callee' : Node) (cargs' cargs : List Node) (csp : Span) (p2 : Node) (cs2 : Span) (s : St)
    (hw : HypW cx hi s) (hlo : lo ≤ s.counter) (hE : Er cx lo hi obj' obj)
    (hp2 : strip p2 = .pname method Span.dummy)
    (ha : Forall2 (fun a' a => Er cx lo hi a' a ∧ DeepEr cx lo hi a' a) cargs' cargs) :
    CallEr cx lo s (.call (.member obj p2 cs2) cargs csp)
      (replaceCallWithMember cfg obj' method msp callee' cargs' csp none none s) := by
  refine replaceCallWithMember_Er cfg cx lo hi obj' obj method msp callee' cargs' cargs csp none none _ s hw hlo hE ha
    (fun _ => rfl) ?_
  intro idR nbR mem'' hb σ' X _ sX hthis
  rw [BRg_noBlk (noBlk_memberE nbR (noBlk_pname _ _)) hb]
  refine ⟨.member X (.pname method msp) csp, [], by simp only [erase, hthis]; rfl, noSp_member _ _ _, Win.nil _ _, ?_⟩
  intro Xs sXs
  simp only [Option.getD_none, resolveCall, beq_self_eq_true, if_true]
  refine ⟨?_, Or.inl rfl, noSp_call _ _ _⟩
  simp only [strip]
  rw [sX.1, hp2, show stripL Xs = stripL cargs from sXs]

/-- `X.prototype.m.call|apply(this, args…)`:
    `(t0 = this, t1 = X.prototype.m, hook(t1.call(t0, args…), t1, t0, args…))` erases to the call it came from -/
theorem replaceCallWithMember_proto_Er (cfg : Config) (cx : Cx) (lo hi : Nat) (thisE' thisSrc member' memberSrc : Node)
    (method : String) (msp : Span) (callee' : Node) (rest' rest : List Node) (csp : Span) (p2 : Node) (cs2 : Span)
    (ca : String) (s : St)
    (hw : HypW cx hi s) (hlo : lo ≤ s.counter)
    (hp2 : strip p2 = .pname ca Span.dummy)
    (hE : Er cx lo hi thisE' thisSrc)
    (hm : Er cx lo hi member' memberSrc) (hmnl : member'.isLit = false)
    (ha : Forall2 (fun a' a => Er cx lo hi a' a ∧ DeepEr cx lo hi a' a) rest' rest)
    (hres : ∀ member'', BRg member' member'' → ∀ σ', cx.ext σ' → ∀ X, ESim X thisSrc → ∀ Xs,
      resolveCall (erase σ' member'').1 ca csp csp (.arg none X :: Xs) csp =
        .call (.member (erase σ' member'').1 (.pname ca csp) csp) (.arg none X :: Xs) csp) :
    CallEr cx lo s (.call (.member memberSrc p2 cs2) (.arg none thisSrc :: rest) csp)
      (replaceCallWithMember cfg thisE' method msp callee' rest' csp (some member') (some ca) s) := by
  refine replaceCallWithMember_Er cfg cx lo hi thisE' thisSrc method msp callee' rest' rest csp (some member') (some ca) _ s
    hw hlo hE ha (fun _ => hmnl) ?_
  intro _ _ mem'' hb σ' X hσ' sX _
  obtain ⟨F, Δm, eF, sF, wF⟩ := hm mem'' hb σ' hσ'
  refine ⟨F, Δm, eF, sF.2.2, wF, ?_⟩
  intro Xs sXs
  have hFe : F = (erase σ' mem'').1 := by rw [eF]
  rw [Option.getD_some, hFe, hres mem'' hb σ' hσ' X sX Xs, ← hFe]
  refine ⟨?_, Or.inl rfl, noSp_call _ _ _⟩
  simp only [strip, stripL, Option.map]
  rw [sF.1, sX.1, hp2, show stripL Xs = stripL rest from sXs]

theorem resolveCall_spread (F : Node) (ca : String) (casp msp : Span) (s0 : Span) (x : Node) (Xs : List Node) (sp : Span) :
    resolveCall F ca casp msp (.arg (some s0) x :: Xs) sp = .call (.member F (.pname ca casp) msp) (.arg (some s0) x :: Xs) sp := by
  unfold resolveCall
  split <;> rfl

/-- `replace_call_spread_if_csi_method_with_member`: `X.prototype.m.call(...args)` -/
theorem replaceCallSpread_Er (cfg : Config) (cx : Cx) (lo hi : Nat) (member' memberSrc : Node) (method : String)
    (callee' : Node) (cargs' cargs : List Node) (csp : Span) (p2 : Node) (cs2 : Span) (ca : String) (s : St)
    (hw : HypW cx hi s) (hlo : lo ≤ s.counter)
    (hp2 : strip p2 = .pname ca Span.dummy)
    (hm : Er cx lo hi member' memberSrc)
    (ha : Forall2 (fun a' a => Er cx lo hi a' a ∧ DeepEr cx lo hi a' a) cargs' cargs)
    (hsp : ∃ s0 e0 tl, cargs = .arg (some s0) e0 :: tl) :
    CallEr cx lo s (.call (.member memberSrc p2 cs2) cargs csp)
      (replaceCallSpreadWithMember cfg method callee' cargs' csp member' ca s) := by
  unfold replaceCallSpreadWithMember
  cases cfg.get method with
  | none => exact none_Er cx lo s _
  | some csi =>
    simp only [run_bind]
    rcases getIdentUsed_casesC member' [] [] csp .expr s with ⟨hl, h1⟩ | ⟨_, s1, h1, c1⟩
    · rw [h1]; exact none_Er cx lo s _
    · rw [h1]
      simp only [run_bind, run_pure]
      have hbc : s.counter < s1.counter := c1 ▸ Nat.lt_succ_self _
      have hL := replaceArgs_Er cx lo hi .replace csp (ca == Generated.applyMethodName) cargs' cargs
        ([] ++ [.assign "=" (tempIdent s.counter) (assignRight member' .expr) csp])
        ([] ++ [exprOrSpread (tempIdent s.counter) .expr]) s1 (hw.mono (Nat.le_of_lt hbc)) ha
      unfold replaceCallCalleeAndArgs
      simp only [run_bind, run_pure, Option.getD_some]
      generalize replaceArgs .replace csp (ca == Generated.applyMethodName) cargs'
        ([] ++ [.assign "=" (tempIdent s.counter) (assignRight member' .expr) csp])
        ([] ++ [exprOrSpread (tempIdent s.counter) .expr]) s1 = RA at hL ⊢
      obtain ⟨⟨xs, asg3, args3⟩, s3⟩ := RA
      have c3 : s1.counter ≤ s3.counter := hL.counter_le
      refine ⟨Nat.le_trans (Nat.le_of_lt hbc) c3, ?_⟩
      intro e1 tag he
      simp only [Option.some.injEq, Prod.mk.injEq] at he
      obtain ⟨rfl, -⟩ := he
      intro m hbr σ hσ
      obtain ⟨asgP'', xs'', hP, H⟩ := hookCall_args hL (allTA_single _ _ _)
        (inertL_single (inert_exprOrSpread _ (inert_temp _ _)))
        (by simp only [List.nil_append, noBlkL_cons, noBlkL_nil, noBlk_exprOrSpreadE .expr (noBlk_tempIdent _)]; rfl)
        (pre := []) (noBlk_memberE (noBlk_tempIdent _) (noBlk_pname _ _)) rfl hbr
      obtain ⟨am'', rfl, ham⟩ := BRgL.single_inv hP
      obtain ⟨F, Δm, eF, sF, wF⟩ := tempAssign_Er hm _ .expr csp am'' ham σ hσ
      have hmem : eraseAsg σ [am''] = ([(s.counter, F)] ++ Δm) ++ σ := by simp only [eraseAsg, eF]; rfl
      obtain ⟨Δa, Xs, Δ3, em, eXs, sXs, wXs, wA⟩ := H σ _ hσ hmem
        (Cx.ext_append hσ (AvoidP.hoisted hw (Nat.le_refl _) F wF))
      -- the first erased argument is still a spread
      obtain ⟨s0, e0, tl, hcargs⟩ := hsp
      have hXs : ∃ s0' x0 Xtl, Xs = .arg (some s0') x0 :: Xtl := by
        have hs : stripL Xs = stripL cargs := sXs
        rw [hcargs] at hs
        cases Xs with
        | nil => simp [stripL] at hs
        | cons X0 Xtl =>
          simp only [stripL, List.cons.injEq, strip] at hs
          obtain ⟨sx, x0, rfl, hsx⟩ := strip_eq_arg hs.1
          cases sx with
          | none => exact Bool.noConfusion hsx
          | some s0' => exact ⟨s0', x0, Xtl, rfl⟩
      obtain ⟨s0', x0, Xtl, rfl⟩ := hXs
      refine ⟨.call (.member F (.pname ca csp) csp) (.arg (some s0') x0 :: Xtl) csp,
        Δ3 ++ Δa ++ [(s.counter, F)] ++ Δm ++ [], ?_, ?_,
        Win.hoisted F wXs wA wF (WinU.nil lo hi s.counter s.counter) hlo hw.h3 (Nat.le_refl _) hbc c3⟩
      · simp only [List.cons_append, List.nil_append, List.append_assoc, List.append_nil] at em eXs ⊢
        simp only [tempIdent] at em
        rw [em, erase_call_viaTemp _ _ _ _ _ _ _ _ _ (Env.get_hoisted wA hw.h3 hbc F _), eXs, resolveCall_spread]
      · refine ⟨?_, Or.inl rfl, noSp_call _ _ _⟩
        simp only [strip]
        rw [sF.1, hp2, show stripL (Node.arg (some s0') x0 :: Xtl) = stripL cargs from sXs]

/-- `replace_call_expr_if_csi_method_without_callee`: a bare call keeps its callee -/
theorem replaceCallWithoutCallee_Er (cfg : Config) (cx : Cx) (lo hi : Nat) (name : Name) (isp : Span) (callee : Node)
    (cargs' cargs : List Node) (csp : Span) (s : St)
    (hw : HypW cx hi s) (hlo : lo ≤ s.counter)
    (hc : Er cx lo hi (.ident name isp) callee)
    (ha : Forall2 (fun a' a => Er cx lo hi a' a ∧ DeepEr cx lo hi a' a) cargs' cargs) :
    CallEr cx lo s (.call callee cargs csp)
      (replaceCallWithoutCallee cfg name isp (.ident name isp) cargs' csp s) := by
  unfold replaceCallWithoutCallee
  cases name with
  | temp k => exact none_Er cx lo s _
  | user method =>
    simp only
    cases cfg.get method with
    | none => exact none_Er cx lo s _
    | some csi =>
      simp only
      split
      · simp only [run_bind, run_pure]
        have hL := replaceArgs_Er cx lo hi .replace csp (Generated.callMethodName == Generated.applyMethodName) cargs' cargs
          [] [Node.arg none (.ident (.user method) isp), .arg none (.ident (.user "undefined") csp)] s hw ha
        unfold replaceCallCalleeAndArgs
        simp only [run_bind, run_pure, Option.getD_none]
        generalize replaceArgs .replace csp (Generated.callMethodName == Generated.applyMethodName) cargs'
          [] [Node.arg none (.ident (.user method) isp), .arg none (.ident (.user "undefined") csp)] s = RA at hL ⊢
        obtain ⟨⟨xs, asg3, args3⟩, s3⟩ := RA
        have c3 : s.counter ≤ s3.counter := hL.counter_le
        refine ⟨c3, ?_⟩
        intro e1 tag he
        simp only [Option.some.injEq, Prod.mk.injEq] at he
        obtain ⟨rfl, -⟩ := he
        intro m hbr σ hσ
        obtain ⟨asgP'', xs'', hP, H⟩ := hookCall_args hL AllTA.nil
          (InertL.append (inertL_single (inert_arg (inert_user _ _))) (inertL_single (inert_arg (inert_user _ _))))
          (by simp only [noBlkL_cons, noBlkL_nil, noBlk_argE (noBlk_ident _ _)]; rfl)
          (pre := []) (noBlk_ident _ _) rfl hbr
        obtain ⟨Δa, Xs, Δ3, em, eXs, sXs, wXs, wA⟩ := H σ [] hσ (by rw [BRgL.nil_inv hP]; rfl) hσ
        simp only [List.nil_append] at em eXs
        obtain ⟨Xc, Δc, eC, sC, wC⟩ := hc _ (BRg.refl _) _ (Cx.ext_append hσ (wA.avoidCx hw))
        refine ⟨.call (.ident (.user method) isp) Xs csp, Δ3 ++ Δa, ?_, ?_, ?_⟩
        · rw [em, erase_call_plain _ _ _ _ (by rfl)]
          simp only [erase]
          rw [eXs, List.append_assoc]
        · refine ⟨?_, Or.inl rfl, noSp_call _ _ _⟩
          have hXc : Xc = .ident (.user method) isp := by
            simp only [erase] at eC
            exact (congrArg Prod.fst eC).symm
          simp only [strip]
          rw [← sC.1, show stripL Xs = stripL cargs from sXs, hXc]
          rfl
        · exact (wXs.mono (Nat.le_refl _) (Nat.le_trans hw.h3 c3)).append (winU_win wA hlo (Nat.le_trans hw.h3 c3))
      · exact none_Er cx lo s _

theorem Er_strip_pname {cx : Cx} {lo hi : Nat} {m : String} {msp : Span} {p2 : Node}
    (h : Er cx lo hi (.pname m msp) p2) : strip p2 = .pname m Span.dummy := by
  obtain ⟨X, Δ, eX, sX, _⟩ := h _ (BRg.refl _) cx.base cx.ext_base
  simp only [erase] at eX
  have hX : X = .pname m msp := (congrArg Prod.fst eX).symm
  rw [hX] at sX
  have := sX.1
  simp only [strip] at this
  exact this.symm

theorem staticPath_obj {o' p' : Node} {sp' : Span} (h : isStaticPath (.member o' p' sp') = true) :
    (∃ nm isp, o' = .ident nm isp) ∨ (∃ a b msp, o' = .member a b msp) := by
  unfold isStaticPath at h
  split at h
  · rename_i heq
    obtain ⟨rfl, -, -⟩ := member.inj heq
    split at h
    · exact .inl ⟨_, _, rfl⟩
    · exact .inr ⟨_, _, _, rfl⟩
    · cases h
  · cases h

/-- in `X.prototype.m.call(this, …)` the object of the method path is not the this-argument, so `erase`
    does not mistake the call for a method call through its receiver -/
theorem proto_not_receiver (cx : Cx) (lo hi : Nat) (o' p' : Node) (sp' : Span) (o p : Node) (sp2 : Span)
    (thisSrc : Node) (ca : String) (csp : Span)
    (hstat : isStaticPath (.member o' p' sp') = true)
    (hD : Deep lo hi (.member o' p' sp') (.member o p sp2))
    (hsrc : srcOk o = true)
    (hclash : (o.span == thisSrc.span) = false ∧ o.span.isDummy = false) :
    ∀ member'', BRg (.member o' p' sp') member'' → ∀ σ', cx.ext σ' → ∀ X, ESim X thisSrc → ∀ Xs,
      resolveCall (erase σ' member'').1 ca csp csp (.arg none X :: Xs) csp =
        .call (.member (erase σ' member'').1 (.pname ca csp) csp) (.arg none X :: Xs) csp := by
  intro member'' hm'' σ' _ X sX Xs
  obtain ⟨o'', p'', rfl, ho'', _⟩ := hm''.member_inv
  simp only [Deep] at hD
  obtain ⟨_, hEo, _, _, _, hid⟩ := hD
  have hF : (erase σ' (.member o'' p'' sp')).1 = .member (erase σ' o'').1 (erase (erase σ' o'').2 p'').1 sp' := by
    simp only [erase]
  rw [hF]
  -- the erased object of the path carries the position of the source object
  have hspan : (erase σ' o'').1.span = o.span := by
    obtain ⟨Xo, Δ, eXo, sXo, _⟩ := hEo o'' ho'' σ'
    rw [eXo]
    simp only
    rcases staticPath_obj hstat with ⟨nm, isp, rfl⟩ | ⟨a, b, msp, rfl⟩
    · have := hid rfl
      subst this
      rw [BRg_noBlk (noBlk_ident _ _) ho'', erase_src _ hsrc] at eXo
      have := congrArg Prod.fst eXo
      simp only at this
      rw [← this]
    · obtain ⟨a'', b'', rfl, _, _⟩ := ho''.member_inv
      simp only [erase] at eXo
      have hXo := (congrArg Prod.fst eXo).symm
      simp only at hXo
      have h1 := sXo.1
      have h2 := sXo.2.1
      rw [hXo] at h1 h2
      simp only [strip] at h1
      obtain ⟨a2, b2, msp2, rfl⟩ := strip_eq_member h1.symm
      simp only [spanRel, Node.span, isOptN] at h2
      rcases h2 with h2 | h2
      · rw [hXo]; exact h2
      · exact absurd h2.1 (by simp)
  have hne : ((erase σ' o'').1 == X) = false := by
    cases hbeq : ((erase σ' o'').1 == X) with
    | false => rfl
    | true =>
      exfalso
      have hs := beq_span _ _ hbeq
      rw [hspan] at hs
      rcases sX.2.1 with h | h
      · rw [h] at hs
        rw [hs, beq_self_eq_true] at hclash
        exact absurd hclash.1 (by simp)
      · rw [h.2] at hs
        rw [hs] at hclash
        exact absurd hclash.2 (by simp [dummy_isDummy])
  unfold resolveCall
  simp only [hne, Bool.false_eq_true, if_false]
  split <;> rfl

/-- the `X.prototype.m.call|apply` dispatcher -/
theorem replacePrototype_Er (cfg : Config) (cx : Cx) (lo hi : Nat) (cargs' cargs : List Node) (csp : Span) (callee' : Node)
    (o' p' : Node) (sp' : Span) (o p : Node) (m : String) (p2 : Node) (cs2 : Span) (s : St)
    (hw : HypW cx hi s) (hlo : lo ≤ s.counter)
    (hp2 : strip p2 = .pname m Span.dummy)
    (hm : Er cx lo hi (.member o' p' sp') (.member o p sp'))
    (hD : Deep lo hi (.member o' p' sp') (.member o p sp'))
    (hso : srcOk o = true)
    (ha : Forall2 (fun a' a => Er cx lo hi a' a ∧ DeepEr cx lo hi a' a) cargs' cargs)
    (hAA : Forall2 (fun a' a => ∃ sA e' e, a' = .arg sA e' ∧ a = .arg sA e) cargs' cargs)
    (hclash : callThisClash (.call (.member (.member o p sp') p2 cs2) cargs csp) = false) :
    CallEr cx lo s (.call (.member (.member o p sp') p2 cs2) cargs csp)
      (replacePrototypeCallOrApply cfg cargs' csp callee' (.member o' p' sp') m s) := by
  refine replacePrototype_cases (P := fun m => CallEr cx lo s (.call (.member (.member o p sp') p2 cs2) cargs csp) (m s))
    cfg cargs' csp callee' _ m ?_ ?_ ?_
  · exact none_Er cx lo s _
  · intro method msp2 this' rest' _ hcargs hspread
    subst hcargs
    cases cargs with
    | nil => simp [Forall2] at ha
    | cons this rest =>
      obtain ⟨⟨sA, thisE', thisSrc, rfl, rfl⟩, -⟩ := hAA
      cases sA with
      | none => cases hspread
      | some s0 =>
        exact replaceCallSpread_Er cfg cx lo hi _ _ method callee' _ _ csp p2 cs2 m s hw hlo hp2 hm ha ⟨s0, thisSrc, rest, rfl⟩
  · intro method msp2 this' rest' hpm hcargs hnsp
    subst hcargs
    have hstat : isStaticPath (.member o' p' sp') = true := by
      unfold prototypeMethodIdent at hpm
      split at hpm
      · assumption
      · cases hpm
    cases cargs with
    | nil => simp [Forall2] at ha
    | cons this rest =>
      obtain ⟨⟨sA, thisE', thisSrc, rfl, rfl⟩, -⟩ := hAA
      obtain ⟨s2, e2, he2, _, hEthis⟩ := Er_arg_inv ha.1.1
      simp only [arg.injEq] at he2
      obtain ⟨-, rfl⟩ := he2
      cases sA with
      | some s0 => cases hnsp
      | none =>
        have hcl : (o.span == thisSrc.span) = false ∧ o.span.isDummy = false := by
          obtain ⟨psp, rfl⟩ := strip_eq_pname hp2
          simp only [callThisClash, Bool.or_eq_false_iff] at hclash
          exact hclash
        exact replaceCallWithMember_proto_Er cfg cx lo hi thisE' thisSrc _ _ method msp2 _ rest' rest csp p2 cs2 m s
          hw hlo hp2 hEthis hm (by rfl) ha.2
          (proto_not_receiver cx lo hi o' p' sp' o p sp' thisSrc m csp hstat hD hso hcl)

/-- `CallExprTransform::to_dd_call_expr`: whichever form it produces erases to the call it replaces -/
theorem toDdCall_Er (cfg : Config) (cx : Cx) (lo hi : Nat) (callee' callee : Node) (cargs' cargs : List Node) (csp : Span)
    (s : St) (hw : HypW cx hi s) (hlo : lo ≤ s.counter)
    (hc : Er cx lo hi callee' callee) (hDc : Deep lo hi callee' callee) (hsc : srcOk callee = true)
    (ha : Forall2 (fun a' a => Er cx lo hi a' a ∧ DeepEr cx lo hi a' a) cargs' cargs)
    (hAA : Forall2 (fun a' a => ∃ sA e' e, a' = .arg sA e' ∧ a = .arg sA e) cargs' cargs)
    (hclash : callThisClash (.call callee cargs csp) = false) :
    s.counter ≤ (toDdCall cfg (.call callee' cargs' csp) s).2.counter ∧
    ∀ e1 tag, (toDdCall cfg (.call callee' cargs' csp) s).1 = some (e1, tag) →
      Er cx lo (toDdCall cfg (.call callee' cargs' csp) s).2.counter e1 (.call callee cargs csp) := by
  show CallEr cx lo s (.call callee cargs csp) (toDdCall cfg (.call callee' cargs' csp) s)
  refine toDdCall_cases (P := fun m => CallEr cx lo s (.call callee cargs csp) (m s)) cfg callee' cargs' csp ?_ ?_ ?_ ?_
  · exact none_Er cx lo s _
  · intro obj' m msp cs' hcal
    subst hcal
    obtain ⟨obj, p2, cs2, rfl⟩ := Er_strip_member hc
    simp only [Deep] at hDc
    obtain ⟨rfl, hEo, hEp, -, -, -⟩ := hDc
    exact replaceCallWithMember_plain_Er cfg cx lo hi obj' obj m msp _ cargs' cargs csp p2 cs2 s hw hlo (hEo.er cx)
      (Er_strip_pname (hEp.er cx)) ha
  · intro o' p' sp' m msp cs' hcal _
    subst hcal
    obtain ⟨obj, p2, cs2, rfl⟩ := Er_strip_member hc
    simp only [Deep] at hDc
    obtain ⟨rfl, hEo, hEp, hDo, -, -⟩ := hDc
    have hso : srcOk obj = true := srcOk_kids hsc obj (by simp [kids])
    obtain ⟨o, p, sp2, rfl⟩ := Er_strip_member (hEo.er cx)
    have hsp : sp2 = sp' := by
      have := hDo; simp only [Deep] at this; exact this.1
    subst hsp
    exact replacePrototype_Er cfg cx lo hi cargs' cargs csp _ o' p' sp2 o p m p2 cs2 s hw hlo (Er_strip_pname (hEp.er cx))
      (hEo.er cx) hDo (srcOk_kids hso o (by simp [kids])) ha hAA hclash
  · intro nm isp hcal
    subst hcal
    exact replaceCallWithoutCallee_Er cfg cx lo hi nm isp callee cargs' cargs csp s hw hlo hc ha

end IastModel
