import IastModel.Lemmas.CountTr
/-
  `+=` under an arbitrary counter.  The target is split into the place written to and the expression read
  back: what is hoisted into a temporary is moved, the parts read again as they are (identifiers,
  literals, `this`, `super`, plain and private names) are there twice.
-/
namespace IastModel
open Node

/-- `p` sees none of the nodes that a rewritten target repeats -/
def TargetBlind (p : Node → Bool) : Prop :=
  CopyBlind p ∧ (∀ s, p (.atom s) = false) ∧
    ∀ k sp ns vs, (k = "ThisExpression" ∨ k = "Super" ∨ k = "PrivateName") → p (.other k sp ns vs) = false

/-- target and read-back together weigh the original target plus the repeated parts, which weigh nothing
    for a blind counter on a target of one of JavaScript's shapes (`ok`) -/
def SplitC (p : Node → Bool) (ok : Bool) (left : Node) (R : (Node × Node) × St) : Prop :=
  ∃ κ, count p R.1.1 + count p R.1.2 = count p left + κ ∧ κ ≤ count p left ∧ (TargetBlind p → ok = true → κ = 0)

section
variable {p : Node → Bool}

theorem SplitC.same (ok : Bool) (left : Node) (s : St) (h : TargetBlind p → ok = true → count p left = 0) :
    SplitC p ok left ((left, left), s) := ⟨count p left, rfl, Nat.le_refl _, h⟩

theorem countL_atoms (hb : TargetBlind p) : ∀ (vs : List Node), vs.all isAtomNode = true → countL p vs = 0
  | [], _ => rfl
  | v :: vs, h => by
    rw [List.all_cons, Bool.and_eq_true] at h
    cases v with
    | atom s => rw [countL_cons, count_atom, hb.2.1, countL_atoms hb vs h.2]; rfl
    | _ => cases h.1

theorem tshape_other {k : String} {sp : Span} {ns : List String} {vs : List Node} (h : tshape (.other k sp ns vs) = true) :
    k = "SuperPropExpression" ∧ ns = ["obj", "property"] ∧
      ∃ ssp sn prop, vs = [.other "Super" ssp sn [], prop] ∧ propShape prop = true := by
  unfold tshape at h
  split at h
  · rename_i heq; cases heq
  · rename_i heq; cases heq
  · rename_i heq; cases heq; exact ⟨rfl, rfl, _, _, _, rfl, h⟩
  · rename_i heq; cases heq
  · cases h

theorem count_simple (hb : TargetBlind p) {e : Node} (hs : isSimpleTargetPart e = true) : count p e = 0 := by
  unfold isSimpleTargetPart at hs
  split at hs
  · rw [count_ident, hb.1.ident]; rfl
  · rw [count_lit, hb.1.lit]; rfl
  · rw [count_other, hb.2.2 _ _ _ _ (Or.inl rfl)]; rfl
  · cases hs

variable (hp : Scaf p)
include hp

theorem count_simpleKey (hb : TargetBlind p) {prop : Node} (hs : propShape prop = true) (hk : keyIsSimple prop = true) :
    count p prop = 0 := by
  unfold propShape at hs
  split at hs
  · exact hp.c_pname _ _
  · rename_i csp e
    rw [hp.c_computed, countL_cons, countL_nil, count_simple hb (by simpa [keyIsSimple] using hk)]
  · rename_i k sp ns vs _
    simp only [Bool.and_eq_true, beq_iff_eq] at hs
    rw [count_other, hb.2.2 _ _ _ _ (Or.inr (Or.inr hs.1)), countL_atoms hb vs hs.2]; rfl
  · cases hs

theorem hoistTargetPart_cnt (ok : Bool) (e : Node) (sp : Span) (s : St) : SplitC p ok e (hoistTargetPart e sp s) := by
  unfold hoistTargetPart
  simp only [run_bind]
  rcases getTemporalIdent_cases (seqOperand e) [] sp .expr s with ⟨hl, h⟩ | ⟨hl, n, s', h, _⟩
  · rw [h]
    exact ⟨count p e, by simp only [run_pure, hp.c_seqOperand], Nat.le_refl _,
      fun hb _ => by rw [← hp.c_seqOperand]; exact hb.1.of_isLit hl⟩
  · rw [h]
    simp only [List.nil_append, List.getLast?_singleton, run_pure]
    exact ⟨0, by simp only [tempIdent, hp.c_paren, hp.c_tempAssign, hp.c_temp, hp.c_assignRight, hp.c_seqOperand],
      Nat.zero_le _, fun _ _ => rfl⟩

theorem splitComputedKey_cnt (ok : Bool) (csp : Span) (e : Node) (sp : Span) (s : St) :
    SplitC p ok (.other "Computed" csp ["expression"] [e]) (splitComputedKey csp e sp s) := by
  unfold splitComputedKey
  simp only [run_bind, run_pure]
  obtain ⟨κ, h1, h2, h3⟩ := hoistTargetPart_cnt hp ok e sp s
  exact ⟨κ, by simp only [hp.c_computed, countL_cons, countL_nil]; omega,
    by simp only [hp.c_computed, countL_cons, countL_nil]; omega, h3⟩

theorem splitProp_cnt (prop : Node) (sp : Span) (s : St) : SplitC p (propShape prop) prop (splitProp prop sp s) := by
  unfold splitProp
  split
  · rename_i csp e
    split
    · exact splitComputedKey_cnt hp _ csp e sp s
    · rename_i hs
      exact SplitC.same _ _ s fun hb hsh => count_simpleKey hp hb hsh (by simpa [keyIsSimple] using hs)
  · rename_i hne
    refine SplitC.same _ _ s fun hb hsh => count_simpleKey hp hb hsh ?_
    unfold keyIsSimple; split
    · exact absurd rfl (hne _ _)
    · rfl

theorem splitMemberTarget_cnt (sp : Span) : ∀ (left : Node) (s : St),
    SplitC p (tshape left) left (splitMemberTarget left sp s) := by
  apply Node.ind
  intro left ih s
  cases left with
  | member obj prop msp =>
    simp only [splitMemberTarget]
    split
    · split
      · rename_i hrep
        simp only [Bool.and_eq_true] at hrep
        simp only [run_bind, run_pure]
        obtain ⟨κ, h1, h2, h3⟩ := splitProp_cnt hp prop sp s
        exact ⟨count p obj + κ, by simp only [hp.c_member]; omega, by simp only [hp.c_member]; omega,
          fun hb hsh => by rw [count_simple hb hrep.1, h3 hb hsh]⟩
      · simp only [run_bind, run_pure]
        obtain ⟨κ1, a1, a2, a3⟩ := hoistTargetPart_cnt hp true obj sp s
        obtain ⟨κ2, b1, b2, b3⟩ := splitProp_cnt hp prop sp (hoistTargetPart obj sp s).2
        exact ⟨κ1 + κ2, by simp only [hp.c_member]; omega, by simp only [hp.c_member]; omega,
          fun hb hsh => by rw [a3 hb rfl, b3 hb hsh]⟩
    · rename_i hcond
      simp only [Bool.or_eq_true, Bool.not_eq_true', not_or, Bool.not_eq_false] at hcond
      exact SplitC.same _ _ s fun hb hsh => by
        rw [hp.c_member, count_simple hb hcond.1, count_simpleKey hp hb hsh hcond.2]
  | paren e psp =>
    simp only [splitMemberTarget]
    split
    · simp only [run_bind, run_pure]
      obtain ⟨κ, h1, h2, h3⟩ := ih e (by simp [kids]) s
      exact ⟨κ, by simp only [hp.c_paren]; omega, by simp only [hp.c_paren]; omega, h3⟩
    · rename_i hsi
      refine SplitC.same _ _ s fun hb hsh => ?_
      -- a target shape that is not splittable is an identifier
      cases e with
      | ident nm isp => rw [hp.c_paren, count_ident, hb.1.ident]; rfl
      | member o q m => exact absurd rfl hsi
      | paren e2 p2 => exact absurd rfl hsi
      | other k2 s2 n2 v2 =>
        obtain ⟨rfl, _⟩ := tshape_other (show tshape (.other k2 s2 n2 v2) = true from hsh)
        exact absurd (by simp [isSplittableInner]) hsi
      | _ => cases hsh
  | ident nm isp => exact SplitC.same _ _ s fun hb _ => by rw [count_ident, hb.1.ident]; rfl
  | other k osp ons ovs =>
    have hdef : splitMemberTarget (.other k osp ons ovs) sp = splitMemberTarget (.other k osp ons ovs) sp := rfl
    conv at hdef => rhs; unfold splitMemberTarget
    split at hdef
    · rename_i heq; cases heq
    · rename_i ssp sup prop heq
      cases heq
      rw [hdef]
      have hsup : TargetBlind p → tshape (.other "SuperPropExpression" osp ["obj", "property"] [sup, prop]) = true →
          count p sup = 0 ∧ propShape prop = true := by
        intro hb hsh
        obtain ⟨_, _, ssp, sn, prop', hv, hps⟩ := tshape_other hsh
        cases hv
        exact ⟨by rw [count_other, hb.2.2 _ _ _ _ (Or.inr (Or.inl rfl))]; rfl, hps⟩
      split
      · simp only [run_bind, run_pure]
        obtain ⟨κ, h1, h2, h3⟩ := splitProp_cnt hp prop sp s
        exact ⟨count p sup + κ, by simp only [hp.c_superProp, countL_cons, countL_nil]; omega,
          by simp only [hp.c_superProp, countL_cons, countL_nil]; omega,
          fun hb hsh => by rw [(hsup hb hsh).1, h3 hb (hsup hb hsh).2]⟩
      · rename_i hk
        refine SplitC.same _ _ s fun hb hsh => ?_
        rw [hp.c_superProp, countL_cons, countL_cons, countL_nil, (hsup hb hsh).1,
          count_simpleKey hp hb (hsup hb hsh).2 (by simpa using hk)]
    · rename_i heq; cases heq
    · rw [hdef]
      refine SplitC.same _ _ s fun _ hsh => ?_
      rename_i h1 h2 h3
      obtain ⟨rfl, rfl, ssp, sn, prop, rfl, _⟩ := tshape_other hsh
      exact (h1 _ _ _ rfl).elim
  | _ => exact SplitC.same _ _ s fun _ hsh => by simp [tshape] at hsh

omit hp in
theorem splitMemberTarget_isTemp (sp : Span) (left : Node) (s : St) :
    isTempIdent (splitMemberTarget left sp s).1.1 = isTempIdent left := by
  cases left with
  | member obj prop msp =>
    simp only [splitMemberTarget]
    split
    · split <;> rfl
    · rfl
  | paren e psp =>
    simp only [splitMemberTarget]
    split <;> rfl
  | other k osp ons ovs =>
    have hdef : splitMemberTarget (.other k osp ons ovs) sp = splitMemberTarget (.other k osp ons ovs) sp := rfl
    conv at hdef => rhs; unfold splitMemberTarget
    split at hdef
    · rename_i heq; cases heq
    · rw [hdef]; split <;> rfl
    · rename_i heq; cases heq
    · rw [hdef]; rfl
  | _ => rfl

theorem toDdAssign_cnt (cfg : Config) (op : String) (left r : Node) (sp : Span) (s : St) :
    ∀ e', (toDdAssign cfg (.assign op left r sp) s).1 = some e' →
      hookName? (siteOf e') = some cfg.plusName ∧
      ∃ κ, count p e' = hookW p (siteOf e') + count p (.assign op left r sp) + κ ∧
        κ ≤ 5 * count p (.assign op left r sp) ∧ (TargetBlind p → tshape left = true → κ = 0) := by
  simp only [toDdAssign]
  split
  · intro e' h; cases h
  · simp only [run_bind]
    obtain ⟨κ1, a1, a2, a3⟩ := splitMemberTarget_cnt hp sp left s
    have ht := splitMemberTarget_isTemp sp left s
    generalize splitMemberTarget left sp s = R1 at a1 ht
    obtain ⟨⟨target, operand⟩, s1⟩ := R1
    dsimp only at a1 ht
    have h2 := toDdBinary_cnt hp cfg "+" operand (assignRhs r) sp s1
    generalize toDdBinary cfg (.bin "+" operand (assignRhs r) sp) s1 = R2 at h2
    obtain ⟨res, s2⟩ := R2
    cases res with
    | none => intro e' h; cases h
    | some e1 =>
      intro e' he
      cases he
      dsimp only
      obtain ⟨hnm, κ2, b1, b2, b3⟩ := h2 e1 rfl
      simp only [hp.c_assignRhs] at b1 b2
      have hh : (if p (.assign "=" target e1 sp) then 1 else 0) = if p (.assign op left r sp) then 1 else 0 := by
        cases hl : isTempIdent left
        · rw [hp.assign (ht.trans hl) hl]
        · rw [hp.glue _ (by simpa [glue] using ht.trans hl), hp.glue _ (by simpa [glue] using hl)]
      refine ⟨hnm, κ1 + κ2, ?_, ?_, fun hb hsh => by rw [a3 hb hsh, b3 hb.1]⟩
      · rw [siteOf_assign, count_assign, count_assign, hh]; omega
      · rw [count_assign]; omega

end
end IastModel
