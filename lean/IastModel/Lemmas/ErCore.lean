import IastModel.Lemmas.ErBR
/-
  The erasure invariant of the operand handler.  `Er cx lo hi e' e`: in every environment that
  extends the context's base by bindings whose keys avoid `cx.bad`, `erase` turns the (already
  rewritten) operand `e'` into a tree `ESim`-related to the source operand `e` and binds only temporaries of `[lo, hi)`.
-/
namespace IastModel
open Node

def Win (lo hi : Nat) (Δ : Env) : Prop := ∀ p ∈ Δ, lo ≤ p.1 ∧ p.1 < hi
def Avoid (a0 a1 : Nat) (Δ : Env) : Prop := ∀ p ∈ Δ, p.1 < a0 ∨ a1 ≤ p.1

def AvoidP (bad : Nat → Prop) (Δ : Env) : Prop := ∀ p ∈ Δ, ¬ bad p.1

theorem AvoidP.nil (bad : Nat → Prop) : AvoidP bad [] := by intro p hp; cases hp

theorem AvoidP.append {bad : Nat → Prop} {Δ Δ' : Env} (h : AvoidP bad Δ) (h' : AvoidP bad Δ') : AvoidP bad (Δ ++ Δ') := by
  intro p hp
  rcases List.mem_append.mp hp with hp | hp
  · exact h p hp
  · exact h' p hp

/-- a context: a base environment and the keys later bindings must stay away from -/
structure Cx where
  bad : Nat → Prop
  base : Env

/-- `σ` extends the base by bindings whose keys are not `bad` -/
def Cx.ext (cx : Cx) (σ : Env) : Prop := ∃ Δ, σ = Δ ++ cx.base ∧ AvoidP cx.bad Δ

theorem Cx.ext_base (cx : Cx) : cx.ext cx.base := ⟨[], rfl, by intro p hp; cases hp⟩

theorem Cx.ext_append {cx : Cx} {σ Δ : Env} (h : cx.ext σ) (ha : AvoidP cx.bad Δ) : cx.ext (Δ ++ σ) := by
  obtain ⟨Δ0, rfl, h0⟩ := h
  refine ⟨Δ ++ Δ0, by simp, ?_⟩
  intro p hp
  rcases List.mem_append.mp hp with hp | hp
  · exact ha p hp
  · exact h0 p hp

theorem Avoid.nil (a0 a1 : Nat) : Avoid a0 a1 [] := by intro p hp; cases hp

theorem Avoid.append {a0 a1 : Nat} {Δ Δ' : Env} (h : Avoid a0 a1 Δ) (h' : Avoid a0 a1 Δ') : Avoid a0 a1 (Δ ++ Δ') := by
  intro p hp
  rcases List.mem_append.mp hp with hp | hp
  · exact h p hp
  · exact h' p hp

theorem Win.nil (lo hi : Nat) : Win lo hi [] := by intro p hp; cases hp

theorem Win.append {lo hi : Nat} {Δ Δ' : Env} (h : Win lo hi Δ) (h' : Win lo hi Δ') : Win lo hi (Δ ++ Δ') := by
  intro p hp
  rcases List.mem_append.mp hp with hp | hp
  · exact h p hp
  · exact h' p hp

theorem Win.mono {lo hi lo' hi' : Nat} {Δ : Env} (h : Win lo hi Δ) (h1 : lo' ≤ lo) (h2 : hi ≤ hi') : Win lo' hi' Δ := by
  intro p hp; have := h p hp; omega

theorem Win.avoidP {lo hi : Nat} {bad : Nat → Prop} {Δ : Env} (h : Win lo hi Δ) (h1 : ∀ k, bad k → hi ≤ k) : AvoidP bad Δ := by
  intro p hp hb; have := h p hp; have := h1 _ hb; omega

/-- `e'` — and every tree obtained from it by replacing nested blocks with blocks that erase to them —
    erases to `e` in every environment extending the context -/
def Er (cx : Cx) (lo hi : Nat) (e' e : Node) : Prop :=
  ∀ e'', BRg e' e'' → ∀ σ, cx.ext σ → ∃ X Δ, erase σ e'' = (X, Δ ++ σ) ∧ ESim X e ∧ Win lo hi Δ

/-- the context-free form: in every environment -/
def ErAll (lo hi : Nat) (e' e : Node) : Prop :=
  ∀ e'', BRg e' e'' → ∀ σ, ∃ X Δ, erase σ e'' = (X, Δ ++ σ) ∧ ESim X e ∧ Win lo hi Δ

theorem ErAll.er {lo hi : Nat} {e' e : Node} (h : ErAll lo hi e' e) (cx : Cx) : Er cx lo hi e' e :=
  fun e'' hb σ _ => h e'' hb σ

theorem Er.mono {cx : Cx} {lo hi lo' hi' : Nat} {e' e : Node} (h : Er cx lo hi e' e) (h1 : lo' ≤ lo) (h2 : hi ≤ hi') :
    Er cx lo' hi' e' e := by
  intro e'' hb σ hσ
  obtain ⟨X, Δ, a, b, c⟩ := h e'' hb σ hσ
  exact ⟨X, Δ, a, b, c.mono h1 h2⟩

theorem ErAll.mono {lo hi lo' hi' : Nat} {e' e : Node} (h : ErAll lo hi e' e) (h1 : lo' ≤ lo) (h2 : hi ≤ hi') :
    ErAll lo' hi' e' e := by
  intro e'' hb σ
  obtain ⟨X, Δ, a, b, c⟩ := h e'' hb σ
  exact ⟨X, Δ, a, b, c.mono h1 h2⟩

theorem Er.of_eq {cx : Cx} {lo hi : Nat} {e1 e2 e : Node} (h : Er cx lo hi e1 e) (he : e2 = e1) : Er cx lo hi e2 e := he ▸ h

theorem unSpread_src {e : Node} (h : srcOk e = true) : unSpread e = e := by
  unfold unSpread
  split
  · rename_i s x asp
    have := srcOk_self h
    simp only [srcNode, Bool.not_eq_true'] at this
    simp [this]
  · rfl

theorem noSp_unSpread : ∀ {X : Node}, noSp X → unSpread X = X := by
  intro X h
  cases X <;> first | exact h | rfl

theorem noSp_src : ∀ e : Node, srcOk e = true → noSp e := by
  apply Node.ind
  intro e ih h
  cases e with
  | arg s x => simp only [noSp]; exact ih x (by simp [kids]) (srcOk_kids h x (by simp [kids]))
  | _ => exact unSpread_src h

/-- the environment after erasing a list of (temporary) assignments in order -/
def eraseAsg (σ : Env) : List Node → Env
  | [] => σ
  | a :: as => eraseAsg (erase σ a).2 as

theorem eraseAsg_append (σ : Env) (xs ys : List Node) : eraseAsg σ (xs ++ ys) = eraseAsg (eraseAsg σ xs) ys := by
  induction xs generalizing σ with
  | nil => rfl
  | cons x xs ih => simp only [List.cons_append, eraseAsg]; exact ih _

theorem eraseSeq_snoc (σ : Env) (asg : List Node) (c : Node) : eraseSeq σ (asg ++ [c]) = erase (eraseAsg σ asg) c := by
  induction asg generalizing σ with
  | nil => simp [eraseSeq, eraseAsg]
  | cons a as ih =>
    cases as with
    | nil => simp [eraseSeq, eraseAsg]
    | cons b bs =>
      simp only [List.cons_append, eraseSeq, eraseAsg]
      exact ih _

def AllTA (asg : List Node) : Prop := ∀ a ∈ asg, isTempAssign a = true

theorem AllTA.nil : AllTA [] := by intro a h; cases h
theorem AllTA.append {xs ys : List Node} (h1 : AllTA xs) (h2 : AllTA ys) : AllTA (xs ++ ys) := by
  intro a ha
  rcases List.mem_append.mp ha with h | h
  · exact h1 a h
  · exact h2 a h

/-- erasing an argument leaves the environment alone -/
def Inert (a : Node) : Prop := ∀ σ, (erase σ a).2 = σ
def InertL (l : List Node) : Prop := ∀ a ∈ l, Inert a

theorem InertL.nil : InertL [] := by intro a h; cases h
theorem InertL.append {xs ys : List Node} (h1 : InertL xs) (h2 : InertL ys) : InertL (xs ++ ys) := by
  intro a ha
  rcases List.mem_append.mp ha with h | h
  · exact h1 a h
  · exact h2 a h

theorem inertL_single {a : Node} (h : Inert a) : InertL [a] := by
  intro b hb; rw [List.mem_singleton.mp hb]; exact h

theorem eraseL_inert (l : List Node) (h : InertL l) (σ : Env) : (eraseL σ l).2 = σ := by
  induction l generalizing σ with
  | nil => rfl
  | cons x xs ih =>
    simp only [eraseL]
    have hx := h x (by simp) σ
    generalize erase σ x = R at hx
    obtain ⟨x', σ1⟩ := R
    simp only at hx
    subst hx
    simp only
    exact ih (fun a ha => h a (by simp [ha])) _

theorem inert_temp (n : Nat) (sp : Span) : Inert (.ident (.temp n) sp) := by intro σ; simp [erase]
theorem inert_lit {e : Node} (h : e.isLit = true) : Inert e := by
  intro σ
  unfold Node.isLit at h
  split at h
  · rfl
  · cases h
theorem inert_arg {s : Option Span} {e : Node} (h : Inert e) : Inert (.arg s e) := by
  intro σ; simp only [erase]; exact h σ
theorem inert_exprOrSpread {e : Node} (k : IdentKind) (h : Inert e) : Inert (exprOrSpread e k) := by
  cases k <;> exact inert_arg h

/-- erasing a hook call: the erased first argument, in the environment left by the arguments -/
theorem erase_ddCall (σ : Env) (first : Node) (args : List Node) (m : String) (sp : Span) (hi : InertL args) :
    erase σ (ddCall first args m sp) = erase σ first := by
  simp only [ddCall, ddCallee, erase, calleeKind, eraseL, if_true, beq_self_eq_true]
  have := eraseL_inert args hi (erase σ first).2
  generalize erase σ first = R at this
  obtain ⟨f', σ1⟩ := R
  simp only at this ⊢
  generalize eraseL σ1 args = R2 at this
  obtain ⟨as', σ2⟩ := R2
  simp only at this ⊢
  rw [this]

theorem headIsTempAssign_append (asg : List Node) (c : Node) (h : AllTA asg) (hne : asg ≠ []) :
    headIsTempAssign (asg ++ [c]) = true := by
  cases asg with
  | nil => exact absurd rfl hne
  | cons a as => simp only [List.cons_append, headIsTempAssign]; exact h a (by simp)

theorem erase_ddParen (σ : Env) (first : Node) (args asg : List Node) (m : String) (sp : Span)
    (hi : InertL args) (ha : AllTA asg) :
    erase σ (ddParen first args asg m sp) = erase (eraseAsg σ asg) first := by
  unfold ddParen
  simp only
  by_cases he : asg.isEmpty = true
  · simp only [he, if_true]
    have : asg = [] := by simpa using he
    subst this
    exact erase_ddCall σ first args m sp hi
  · simp only [he, Bool.false_eq_true, if_false]
    have hne : asg ≠ [] := by simpa using he
    simp only [erase, Node.span, beq_self_eq_true, if_true, headIsTempAssign_append asg _ ha hne]
    rw [eraseSeq_snoc]
    have := erase_ddCall (eraseAsg σ asg) first args m sp hi
    generalize erase (eraseAsg σ asg) (ddCall first args m sp) = R at this ⊢
    rw [this]

end IastModel
