import IastModel.Lemmas.ErSrcR
/-
  Glue for `visit_VRes` (`ErVisitMain`): `noOpt` through the children, `VRes` from `EVC` / `KRes`.
-/
namespace IastModel
open Node
variable {cfg : Config}

theorem noOpt_eq (n : Node) : noOpt cfg n = (noOptK cfg n && n.kids.all (noOpt cfg)) := by
  unfold noOpt; rw [Node.all_eq]

theorem noOpt_kids {n : Node} (h : noOpt cfg n = true) : ∀ k ∈ n.kids, noOpt cfg k = true := by
  rw [noOpt_eq, Bool.and_eq_true] at h
  intro k hk; exact List.all_eq_true.mp h.2 k hk

theorem updateStatus_counter (st : Status) (tag : Option String) (s : St) : (updateStatus st tag s).2.counter = s.counter := by
  simp only [updateStatus, run_modify]
  split
  · rfl
  · split <;> split <;> rfl

theorem VRes_src (root : Bool) (s s' : St) (n : Node) (hs : srcOk n = true) (hc : s'.counter = s.counter) : VRes root s s' n n := by
  cases root
  · exact ⟨by omega, by rw [hc]; exact EVC.src _ _ n hs⟩
  · exact ⟨0, EVC.src _ _ n hs⟩

theorem VRes_of_VC (root : Bool) (s s2 : St) (x n : Node) (hc : s.counter ≤ s2.counter) (h : EVC s.counter s2.counter x n) :
    VRes root s ((if root = true then do resetCounter; pure x else pure x : M Node) s2).2
      ((if root = true then do resetCounter; pure x else pure x : M Node) s2).1 n := by
  cases root
  · simp only [Bool.false_eq_true, if_false, run_pure]
    exact ⟨hc, h⟩
  · simp only [if_true, run_bind, run_pure]
    exact ⟨s2.counter, h.mono (Nat.zero_le _) (Nat.le_refl _)⟩

theorem VRes_of_KRes (root : Bool) (s s' : St) (n : Node) (ks' : List Node)
    (hgen : ∀ lo hi, KL lo hi ks' n.kids → EVC lo hi (n.withKids ks') n) (h : KRes root s s' ks' n.kids) :
    VRes root s s' (n.withKids ks') n := by
  cases root
  · exact ⟨h.1, hgen _ _ h.2⟩
  · obtain ⟨hi, hk⟩ := h; exact ⟨hi, hgen _ _ hk⟩

theorem mapM'_append (g : Node → M Node) : ∀ (xs ys : List Node) (s : St),
    mapM' g (xs ++ ys) s = ((mapM' g xs s).1 ++ (mapM' g ys (mapM' g xs s).2).1, (mapM' g ys (mapM' g xs s).2).2) := by
  intro xs
  induction xs with
  | nil => intro ys s; simp only [mapM', run_pure, List.nil_append]; rfl
  | cons x xs ih => intro ys s; simp only [List.cons_append, mapM', run_bind, run_pure, ih]

end IastModel
