import IastModel.Lemmas.OcZero
/-
  What the visitors do to the state and to shapes: `Eff s s' k` (the telemetry log grew by `k` entries and the status
  follows), `CfgOk` (every name the configuration can put after `_ddiast.` is acceptable), `Shp n n'` (visiting keeps
  the target and property shapes the `+=` arm relies on, and leaves childless nodes as they are), `good_withKids`.
-/
namespace IastModel
open Node

def StOk (s : St) : Prop := s.status ≠ .cancelled

def Eff (s s' : St) (k : Nat) : Prop :=
  ∃ tags : List (Option String), tags.length = k ∧ s'.incs = s.incs ++ tags ∧
    s'.status = (if k = 0 then s.status else .modified) ∧ (s.fuelOut = true → s'.fuelOut = true)

theorem Eff.of_TS {s s' : St} (h : TS s' s) : Eff s s' 0 := ⟨[], rfl, by simp [h.1], by simp [h.2.1], h.2.2⟩
theorem Eff.refl (s : St) : Eff s s 0 := Eff.of_TS (TS.refl s)

theorem Eff.trans {s s1 s2 : St} {k1 k2 : Nat} (h1 : Eff s s1 k1) (h2 : Eff s1 s2 k2) : Eff s s2 (k1 + k2) := by
  obtain ⟨t1, l1, i1, st1, f1⟩ := h1
  obtain ⟨t2, l2, i2, st2, f2⟩ := h2
  refine ⟨t1 ++ t2, by simp [l1, l2], by rw [i2, i1, List.append_assoc], ?_, fun h => f2 (f1 h)⟩
  rw [st2, st1]
  by_cases hk2 : k2 = 0
  · simp [hk2]
  · simp [hk2]

theorem Eff.stOk {s s' : St} {k : Nat} (h : Eff s s' k) (hs : StOk s) : StOk s' := by
  obtain ⟨_, _, _, st, _⟩ := h
  unfold StOk at *
  rw [st]
  split
  · exact hs
  · intro h; cases h

theorem Eff.cast {s s' : St} {k k' : Nat} (h : Eff s s' k) (e : k = k') : Eff s s' k' := e ▸ h

theorem updateStatus_modified (tag : Option String) (s : St) (hs : StOk s) :
    Eff s (updateStatus .modified tag s).2 1 := by
  unfold StOk at hs
  simp only [updateStatus, run_modify]
  have : (s.status == Status.cancelled) = false := by
    cases h : s.status <;> simp_all <;> rfl
  simp only [this, Bool.false_eq_true, if_false]
  exact ⟨[tag], rfl, by simp <;> rfl, by simp <;> rfl, id⟩

theorem updateStatus_notModified (tag : Option String) (s : St) : (updateStatus .notModified tag s).2 = s := by
  simp only [updateStatus, run_modify]
  split
  · rfl
  · rfl

theorem updateStatus_statusOf (res : Option Node) (tag : Option String) (s : St) (hs : StOk s) :
    Eff s (updateStatus (statusOf res) tag s).2 (if res.isSome then 1 else 0) := by
  cases res with
  | none => simp only [statusOf, Option.isSome_none, Bool.false_eq_true, if_false]; rw [updateStatus_notModified]; exact Eff.refl s
  | some e => simp only [statusOf, Option.isSome_some, if_true]; exact updateStatus_modified tag s hs

theorem resetCounter_TS (s : St) : TS (resetCounter s).2 s := ⟨rfl, rfl, id⟩
theorem registerVariable_TS (n : Name) (sp : Span) (s : St) : TS (registerVariable n sp s).2 s := ⟨rfl, rfl, id⟩
theorem outOfFuel_TS (s : St) : TS (outOfFuel s).2 s := ⟨rfl, rfl, fun _ => rfl⟩

/-- the end of every `with_child_ctx` arm -/
theorem finish_TS (root : Bool) (x : Node) (s : St) :
    TS ((if root = true then do resetCounter; pure x else pure x : M Node) s).2 s := by
  cases root <;> simp [run_bind, run_pure, TS.refl, resetCounter_TS]

/-- every name the configuration can put after `_ddiast.` is acceptable -/
def CfgOk (ok : String → Bool) (cfg : Config) : Prop :=
  (cfg.plusEnabled = true → ok cfg.plusName = true) ∧ (cfg.tplEnabled = true → ok cfg.tplName = true) ∧
  ∀ m csi, cfg.get m = some csi → ok csi.dst = true

/-- nodes without children that the operation visitor walks through -/
def inert : Node → Bool
  | .other _ _ _ [] => true
  | .atom _ => true
  | .pname .. => true
  | _ => false

def Shp (n n' : Node) : Prop :=
  (tshape n = true → tshape n' = true) ∧ (propShape n = true → propShape n' = true) ∧ (inert n = true → n' = n)

theorem Shp.refl (n : Node) : Shp n n := ⟨id, id, fun _ => rfl⟩

theorem Shp.of_false {n n' : Node} (h1 : tshape n = false) (h2 : propShape n = false) (h3 : inert n = false) : Shp n n' :=
  ⟨by simp [h1], by simp [h2], by simp [h3]⟩

theorem isBlockNode_withKids (n : Node) (ks : List Node) : isBlockNode (n.withKids ks) = isBlockNode n := by
  cases n <;> rfl

/-- a node that does not mention the namespace, rebuilt around good children, is good; with `u` set this
    is not how a block statement is judged -/
theorem good_withKids (ok u) (n : Node) (ks : List Node) (h0 : mentionsNs n = false) (hb : u = false ∨ isBlockNode n = false)
    (hk : goodL ok u ks = true) (hl : ks.length = n.kids.length) : goodW ok u (n.withKids ks) = true := by
  have hc : ¬ (u && isBlockNode (n.withKids ks)) = true := by
    rw [isBlockNode_withKids]
    rcases hb with rfl | hb
    · exact Bool.false_ne_true
    · rw [hb, Bool.and_false]; exact Bool.false_ne_true
  -- a hook call would have the bare `_ddiast.<name>` as its first child
  have hn : hookName? (n.withKids ks) = none := by
    cases hh : hookName? (n.withKids ks) with
    | none => rfl
    | some nm =>
      obtain ⟨x, isp, psp, msp, args, sp, heq, hx⟩ := hookName?_some hh
      have hks := Node.kids_withKids n ks hl
      rw [heq] at hks
      rw [← hks, kids, goodL_cons, not_good_ddCallee ok u x nm isp psp msp hx] at hk
      cases hk
  rw [goodW_eq, if_neg hc, hn, mentionsNs_withKids, h0, Node.kids_withKids n ks hl]
  exact hk


theorem inert_of_atom {v : Node} (h : isAtomNode v = true) : inert v = true := by
  unfold isAtomNode at h
  split at h
  · rfl
  · cases h

theorem forall2_atoms_eq : ∀ (vs ks : List Node), Forall2 Shp vs ks → vs.all isAtomNode = true → ks = vs
  | [], [], _, _ => rfl
  | [], _ :: _, h, _ => h.elim
  | _ :: _, [], h, _ => h.elim
  | v :: vs, k :: ks, h, ha => by
    rw [List.all_cons, Bool.and_eq_true] at ha
    rw [h.1.2.2 (inert_of_atom ha.1), forall2_atoms_eq vs ks h.2 ha.2]

theorem propShape_other_atoms (k : String) (sp : Span) (ns' : List String) (vs : List Node)
    (h : (k == "PrivateName" && vs.all isAtomNode) = true) :
    propShape (.other k sp ns' vs) = true := by
  unfold propShape
  split
  · rfl
  · rfl
  · rename_i h2; simp_all
  · rename_i h2; exact (h2 _ _ _ _ rfl).elim

theorem shp_withKids (n : Node) (ks : List Node) (hF : Forall2 Shp n.kids ks) : Shp n (n.withKids ks) := by
  refine ⟨?_, ?_, ?_⟩
  · intro ht
    unfold tshape at ht
    split at ht
    · exact rfl
    · rename_i o p msp
      simp only [kids] at hF
      match ks, hF with
      | [o', p'], hF =>
        simp only [Forall2] at hF
        simp only [withKids, List.getD_cons_zero, List.getD_cons_succ, tshape]
        exact hF.2.1.2.1 ht
    · rename_i ssp sp2 n2 p
      simp only [kids] at hF
      match ks, hF with
      | [sup', p'], hF =>
        simp only [Forall2] at hF
        have : sup' = .other "Super" sp2 n2 [] := hF.1.2.2 rfl
        subst this
        simp only [withKids, tshape]
        exact hF.2.1.2.1 ht
    · rename_i e psp
      simp only [kids] at hF
      match ks, hF with
      | [e'], hF =>
        simp only [Forall2] at hF
        simp only [withKids, List.getD_cons_zero, tshape]
        exact hF.1.1 ht
    · cases ht
  · intro hp
    unfold propShape at hp
    split at hp
    · rfl
    · rename_i csp e
      simp only [kids] at hF
      match ks, hF with
      | [e'], _ => rfl
    · rename_i k sp ns' vs hne
      simp only [kids] at hF
      have hp' := hp
      simp only [Bool.and_eq_true] at hp'
      have := forall2_atoms_eq vs ks hF hp'.2
      subst this
      exact propShape_other_atoms _ _ _ _ hp
    · cases hp
  · intro hi
    unfold inert at hi
    split at hi
    · simp only [kids] at hF
      cases ks with
      | nil => rfl
      | cons k ks => simp [Forall2] at hF
    · rfl
    · rfl
    · cases hi

end IastModel
