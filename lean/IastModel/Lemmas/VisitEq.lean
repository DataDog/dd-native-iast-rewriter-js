import IastModel.Rewriter.Visitor
import IastModel.Lemmas.Monad
/-
  The operation visitor, one equation per arm of its `match`: what a proof about `visit` rewrites with.
-/
namespace IastModel
open Node

variable (cfg : Config) (f : Nat) (root : Bool)

theorem visit_zero (n : Node) : visit cfg 0 root n = (do outOfFuel; pure n) := rfl

theorem visit_bin (op : String) (l r : Node) (sp : Span) :
    visit cfg (f + 1) root (.bin op l r sp) =
      if cfg.plusEnabled then do
        let n1 ← mapKidsM mapM' (visit cfg f false) (.bin op l r sp)
        let n2 ← if op == "+" then do
            let res ← toDdBinary cfg n1
            updateStatus (statusOf res) (some Generated.addTag)
            pure (res.getD n1)
          else pure n1
        if root then resetCounter
        pure n2
      else mapKidsM mapM' (visit cfg f root) (.bin op l r sp) := rfl

theorem visit_assign (op : String) (l r : Node) (sp : Span) :
    visit cfg (f + 1) root (.assign op l r sp) =
      if cfg.plusEnabled then do
        let n1 ← mapKidsM mapM' (visit cfg f false) (.assign op l r sp)
        let n2 ← if op == "+=" then do
            let res ← toDdAssign cfg n1
            updateStatus (statusOf res) (some Generated.addAssignTag)
            pure (res.getD n1)
          else pure n1
        if root then resetCounter
        pure n2
      else mapKidsM mapM' (visit cfg f root) (.assign op l r sp) := rfl

theorem visit_tpl (es qs : List Node) (sp : Span) :
    visit cfg (f + 1) root (.tpl es qs sp) =
      if cfg.tplEnabled then
        if !es.isEmpty && es.all (fun e => !e.isLit) then do
          let n1 ← mapKidsM mapM' (visit cfg f false) (.tpl es qs sp)
          let res ← toDdTpl cfg n1
          updateStatus (statusOf res) (some Generated.tplTag)
          if root then resetCounter
          pure (res.getD n1)
        else pure (.tpl es qs sp)
      else mapKidsM mapM' (visit cfg f root) (.tpl es qs sp) := rfl

theorem visit_call (c : Node) (as : List Node) (sp : Span) :
    visit cfg (f + 1) root (.call c as sp) = (do
      let n1 ← mapKidsM mapM' (visit cfg f false) (.call c as sp)
      let n2 ← match n1 with
        | .call callee _ _ =>
          if isNonExprCallee callee then pure n1
          else do
            let res ← toDdCall cfg n1
            match res with
            | some (e, tag) => do
              updateStatus .modified (some tag)
              pure e
            | none => pure n1
        | _ => pure n1
      if root then resetCounter
      pure n2) := rfl

theorem visit_optChain (o : Bool) (b : Node) (sp : Span) :
    visit cfg (f + 1) root (.optChain o b sp) = (do
      let (e', res) ← toDdCond cfg f (.optChain o b sp)
      let e3 ← mapKidsM mapM' (visit cfg f false) (res.getD e')
      if root then resetCounter
      pure e3) := rfl

theorem visit_unary (op : String) (a : Node) (sp : Span) :
    visit cfg (f + 1) root (.unary op a sp) =
      if isDelete op then pure (.unary op a sp) else mapKidsM mapM' (visit cfg f root) (.unary op a sp) := rfl

theorem visit_arrow (ps : List Node) (b : Node) (at' : String) (sp : Span) :
    visit cfg (f + 1) root (.arrow ps b at' sp) = pure ((toDdArrow (.arrow ps b at' sp)).getD (.arrow ps b at' sp)) := rfl

theorem visit_ident (nm : Name) (sp : Span) :
    visit cfg (f + 1) root (.ident nm sp) = (do registerVariable nm sp; pure (.ident nm sp)) := rfl

theorem visit_block (ss : List Node) (sp : Span) : visit cfg (f + 1) root (.block ss sp) = pure (.block ss sp) := rfl

/-- the constructors that have an arm of their own in `visit` -/
def ownArm : Node → Bool
  | .bin .. | .assign .. | .tpl .. | .call .. | .optChain .. | .unary .. | .arrow .. | .ident .. | .block .. => true
  | _ => false

theorem visit_default {n : Node} (h : ownArm n = false) :
    visit cfg (f + 1) root n = mapKidsM mapM' (visit cfg f root) n := by
  cases n <;> first | exact Bool.noConfusion h | rfl

theorem mapKidsM_run (g : Node → M Node) (n : Node) (s : St) :
    mapKidsM mapM' g n s = (n.withKids (mapM' g n.kids s).1, (mapM' g n.kids s).2) := by
  simp only [mapKidsM, run_bind, run_pure]

theorem mapM'_length (g : Node → M Node) : ∀ (xs : List Node) (s : St), (mapM' g xs s).1.length = xs.length := by
  intro xs
  induction xs with
  | nil => intro s; rfl
  | cons x xs ih => intro s; simp only [mapM', run_bind, run_pure, List.length_cons, ih]

theorem mapM'_cons_run {α β : Type} (g : α → M β) (c : α) (as : List α) (s : St) :
    mapM' g (c :: as) s = ((g c s).1 :: (mapM' g as (g c s).2).1, (mapM' g as (g c s).2).2) := by
  simp only [mapM', run_bind, run_pure]

theorem mapM'_pair (g : Node → M Node) (l r : Node) (s : St) : ∃ l' r' s1, mapM' g [l, r] s = ([l', r'], s1) :=
  ⟨_, _, _, by rw [mapM'_cons_run, mapM'_cons_run]; rfl⟩

theorem mapM'_cons_ex (g : Node → M Node) (c : Node) (as : List Node) (s : St) :
    ∃ c' as' s1, mapM' g (c :: as) s = (c' :: as', s1) := ⟨_, _, _, mapM'_cons_run g c as s⟩

/-- the `+` and `+=` arms share their shape: rebuild around the visited children, transform if the operator is
    the one looked for, note the outcome, finish -/
theorem opArm_run (g : Node → M Node) (n : Node) (b : Bool) (tr : Node → M (Option Node)) (tag : Option String) (s : St)
    {ks' : List Node} {s1 : St} (hk : mapM' g n.kids s = (ks', s1)) :
    (do let n1 ← mapKidsM mapM' g n
        let n2 ← if b then do
            let res ← tr n1
            updateStatus (statusOf res) tag
            pure (res.getD n1)
          else pure n1
        if root then resetCounter
        pure n2 : M Node) s =
      if b = true then
        (if root = true then do resetCounter; pure ((tr (n.withKids ks') s1).1.getD (n.withKids ks'))
          else pure ((tr (n.withKids ks') s1).1.getD (n.withKids ks')) : M Node)
          (updateStatus (statusOf (tr (n.withKids ks') s1).1) tag (tr (n.withKids ks') s1).2).2
      else (if root = true then do resetCounter; pure (n.withKids ks') else pure (n.withKids ks') : M Node) s1 := by
  rw [run_bind, mapKidsM_run, hk]
  by_cases hb : b = true
  · rw [if_pos hb, if_pos hb]; simp only [run_bind, run_pure]
  · rw [if_neg hb, if_neg hb]; simp only [run_bind, run_pure]

theorem visit_bin_run (hp : cfg.plusEnabled = true) (op : String) (l r : Node) (sp : Span) (s : St) {l' r' : Node} {s1 : St}
    (hk : mapM' (visit cfg f false) [l, r] s = ([l', r'], s1)) :
    visit cfg (f + 1) root (.bin op l r sp) s =
      if (op == "+") = true then
        (if root = true then do resetCounter; pure ((toDdBinary cfg (.bin op l' r' sp) s1).1.getD (.bin op l' r' sp))
          else pure ((toDdBinary cfg (.bin op l' r' sp) s1).1.getD (.bin op l' r' sp)) : M Node)
          (updateStatus (statusOf (toDdBinary cfg (.bin op l' r' sp) s1).1) (some Generated.addTag)
            (toDdBinary cfg (.bin op l' r' sp) s1).2).2
      else (if root = true then do resetCounter; pure (.bin op l' r' sp) else pure (.bin op l' r' sp) : M Node) s1 := by
  rw [visit_bin, if_pos hp]
  rw [opArm_run root _ (.bin op l r sp) _ _ _ s hk]
  simp only [withKids, List.getD_cons_zero, List.getD_cons_succ]

theorem visit_assign_run (hp : cfg.plusEnabled = true) (op : String) (l r : Node) (sp : Span) (s : St) {l' r' : Node} {s1 : St}
    (hk : mapM' (visit cfg f false) [l, r] s = ([l', r'], s1)) :
    visit cfg (f + 1) root (.assign op l r sp) s =
      if (op == "+=") = true then
        (if root = true then do resetCounter; pure ((toDdAssign cfg (.assign op l' r' sp) s1).1.getD (.assign op l' r' sp))
          else pure ((toDdAssign cfg (.assign op l' r' sp) s1).1.getD (.assign op l' r' sp)) : M Node)
          (updateStatus (statusOf (toDdAssign cfg (.assign op l' r' sp) s1).1) (some Generated.addAssignTag)
            (toDdAssign cfg (.assign op l' r' sp) s1).2).2
      else (if root = true then do resetCounter; pure (.assign op l' r' sp) else pure (.assign op l' r' sp) : M Node) s1 := by
  rw [visit_assign, if_pos hp]
  rw [opArm_run root _ (.assign op l r sp) _ _ _ s hk]
  simp only [withKids, List.getD_cons_zero, List.getD_cons_succ]

theorem visit_tpl_run (hp : cfg.tplEnabled = true) (es qs : List Node) (sp : Span) (s : St)
    (hg : (!es.isEmpty && es.all (fun e => !e.isLit)) = true) {ks' : List Node} {s1 : St}
    (hk : mapM' (visit cfg f false) (es ++ qs) s = (ks', s1)) :
    visit cfg (f + 1) root (.tpl es qs sp) s =
      (if root = true then do
          resetCounter; pure ((toDdTpl cfg ((Node.tpl es qs sp).withKids ks') s1).1.getD ((Node.tpl es qs sp).withKids ks'))
        else pure ((toDdTpl cfg ((Node.tpl es qs sp).withKids ks') s1).1.getD ((Node.tpl es qs sp).withKids ks')) : M Node)
        (updateStatus (statusOf (toDdTpl cfg ((Node.tpl es qs sp).withKids ks') s1).1) (some Generated.tplTag)
          (toDdTpl cfg ((Node.tpl es qs sp).withKids ks') s1).2).2 := by
  rw [visit_tpl, if_pos hp, if_pos hg]
  simp only [run_bind]
  rw [mapKidsM_run]
  simp only [kids]
  rw [hk]

theorem visit_call_run (c : Node) (as : List Node) (sp : Span) (s : St) {c' : Node} {as' : List Node} {s1 : St}
    (hk : mapM' (visit cfg f false) (c :: as) s = (c' :: as', s1)) :
    visit cfg (f + 1) root (.call c as sp) s =
      if isNonExprCallee c' = true then
        (if root = true then do resetCounter; pure (.call c' as' sp) else pure (.call c' as' sp) : M Node) s1
      else match toDdCall cfg (.call c' as' sp) s1 with
        | (some (e, tag), s2) =>
          (if root = true then do resetCounter; pure e else pure e : M Node) (updateStatus .modified (some tag) s2).2
        | (none, s2) => (if root = true then do resetCounter; pure (.call c' as' sp) else pure (.call c' as' sp) : M Node) s2 := by
  rw [visit_call]
  simp only [run_bind]
  rw [mapKidsM_run]
  simp only [kids]
  rw [hk]
  simp only [withKids, List.getD_cons_zero, List.drop_succ_cons, List.drop_zero]
  by_cases hn : isNonExprCallee c' = true
  · rw [if_pos hn, if_pos hn]; simp only [run_bind, run_pure]
  · rw [if_neg hn, if_neg hn]
    simp only [run_bind]
    generalize toDdCall cfg (.call c' as' sp) s1 = X
    obtain ⟨res, s2⟩ := X
    cases res with
    | none => simp only [run_bind, run_pure]
    | some et => obtain ⟨e, tag⟩ := et; simp only [run_bind, run_pure]

theorem mapM'_id (g : Node → M Node) : ∀ (ks : List Node) (s : St), (∀ k ∈ ks, ∀ s, (g k s).1 = k) → (mapM' g ks s).1 = ks := by
  intro ks
  induction ks with
  | nil => intro s _; rfl
  | cons k ks ih =>
    intro s h
    simp only [mapM', run_bind, run_pure]
    rw [h k (by simp), ih _ (fun x hx => h x (by simp [hx]))]

theorem visit_other (cfg : Config) (f : Nat) (r : Bool) (k : String) (sp : Span) (ns' : List String) (vs : List Node) (s : St) :
    ∃ vs', (visit cfg f r (.other k sp ns' vs) s).1 = .other k sp ns' vs' := by
  cases f with
  | zero => exact ⟨vs, by simp [visit, run_bind, run_pure]⟩
  | succ f => exact ⟨(mapM' (visit cfg f r) vs s).1, by simp [visit, mapKidsM, kids, run_bind, run_pure, withKids]⟩

end IastModel
