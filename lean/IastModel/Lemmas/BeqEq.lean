import IastModel.Spec.EraseSpec
/-
  The two comparisons of trees: `Node.beq` decides equality, `eqNS` is equality of the trees with their
  positions forgotten (`strip`).
-/
namespace IastModel
open Node

instance : LawfulBEq Span where
  eq_of_beq {a b} h := by
    cases a; cases b
    have : (_ == _ && _ == _) = true := h
    simp only [Bool.and_eq_true, beq_iff_eq] at this
    rw [this.1, this.2]
  rfl {a} := by cases a; show (_ == _ && _ == _) = true; simp only [beq_self_eq_true, Bool.and_self]

instance : LawfulBEq Name where
  eq_of_beq {a b} h := by
    cases a <;> cases b <;> first | cases h | exact congrArg _ (eq_of_beq (α := String) h) | exact congrArg _ (eq_of_beq (α := Nat) h)
  rfl {a} := name_beq_refl a

theorem span_eq_of_beq {a b : Span} (h : (a == b) = true) : a = b := eq_of_beq h

/-- the structural equality test of the model decides equality -/
theorem beq_eq : ∀ (a b : Node), Node.beq a b = true → a = b := by
  intro a b
  -- the cases of `beq`'s own recursion: one per constructor, and one for all pairs of different constructors
  induction a, b using Node.beq.induct (motive_2 := fun as bs => Node.beqL as bs = true → as = bs) with
  | case25 t x =>
    intro h
    rw [Node.beq] at h
    · cases h
    all_goals assumption
  | case26 => rfl
  | case27 a as b bs iha ihas =>
    rename_i h
    simp only [Node.beqL, Bool.and_eq_true] at h
    rw [iha h.1, ihas h.2]
  | case28 as bs h1 h2 =>
    rename_i h
    rw [Node.beqL] at h
    · cases h
    all_goals assumption
  | _ =>
    intro h
    simp only [Node.beq, Bool.and_eq_true, beq_iff_eq] at h
    simp_all

theorem beq_self : ∀ n : Node, Node.beq n n = true := by
  intro n
  induction n using Node.rec (motive_2 := fun l => Node.beqL l l = true) with
  | nil => rfl
  | cons x xs hx hxs => simp only [Node.beqL, hx, hxs, Bool.and_self]
  | _ => simp only [Node.beq, beq_self_eq_true, Bool.and_self, *]

theorem beqL_self (l : List Node) : Node.beqL l l = true := by
  induction l with
  | nil => rfl
  | cons x xs ih => simp only [Node.beqL, beq_self x, ih, Bool.and_self]

instance : LawfulBEq Node where
  eq_of_beq := beq_eq _ _
  rfl := beq_self _

theorem beq_span (a b : Node) (h : Node.beq a b = true) : a.span = b.span :=
  congrArg Node.span (beq_eq a b h)

theorem strip_ctorIdx (a : Node) : (strip a).ctorIdx = a.ctorIdx := by cases a <;> rfl

theorem eqNS_of_ctorIdx_ne {a b : Node} (h : a.ctorIdx ≠ b.ctorIdx) : eqNS a b = false :=
  Bool.eq_false_iff.mpr fun hab => h (eqNS_kids hab).1

/-- against a node of another kind both sides are `false`; what is left is `Node.ctorElim`, the case
    split on `b` for the one constructor that built `a` -/
theorem eqNS_strip_of_same {a b : Node}
    (h : Node.ctorElimType (motive_1 := fun b => eqNS (strip a) b = eqNS a b) a.ctorIdx) :
    eqNS (strip a) b = eqNS a b := by
  by_cases hc : a.ctorIdx = b.ctorIdx
  · exact Node.ctorElim (motive_1 := fun b => eqNS (strip a) b = eqNS a b) _ b hc h
  · rw [eqNS_of_ctorIdx_ne hc, eqNS_of_ctorIdx_ne (strip_ctorIdx a ▸ hc)]

theorem eqNS_strip_left : ∀ (a b : Node), eqNS (strip a) b = eqNS a b := by
  intro a
  induction a using Node.rec (motive_2 := fun l => ∀ m, eqNSL (stripL l) m = eqNSL l m) with
  | nil => rename_i m; cases m <;> rfl
  | cons x xs hx hxs =>
    rename_i m
    cases m with
    | nil => rfl
    | cons y ys => simp only [stripL, eqNSL]; rw [hx, hxs]
  | arg s e ih =>
    intro b
    refine eqNS_strip_of_same (PULift.up ?_)
    intro s' e'
    cases s <;> simp only [strip, eqNS, Option.map, Option.isSome, ih]
  | _ =>
    intro b
    refine eqNS_strip_of_same (PULift.up ?_)
    intros
    simp only [strip, eqNS, *]

/-- a property of the trees whose stripped form is built by a given constructor: only that constructor has to be looked at -/
theorem strip_cases {P : Node → Prop} {n m : Node} (h : strip n = m)
    (k : Node.ctorElimType (motive_1 := P) m.ctorIdx) : P n :=
  Node.ctorElim (motive_1 := P) m.ctorIdx n (by rw [← strip_ctorIdx n, h]) k

theorem strip_eq_pname {n : Node} {m : String} (h : strip n = .pname m Span.dummy) : ∃ sp, n = .pname m sp :=
  strip_cases (P := fun n => strip n = .pname m Span.dummy → ∃ sp, n = .pname m sp) h
    (PULift.up fun m' sp h => ⟨sp, by simp only [strip, pname.injEq, and_true] at h; rw [h]⟩) h

theorem strip_eq_bin {n : Node} {op : String} {a b : Node} {sp : Span} (h : strip n = .bin op a b sp) :
    ∃ l r sp2, n = .bin op l r sp2 ∧ strip l = a ∧ strip r = b :=
  strip_cases (P := fun n => strip n = .bin op a b sp → ∃ l r sp2, n = .bin op l r sp2 ∧ strip l = a ∧ strip r = b) h
    (PULift.up fun op' l r sp2 h => by
      simp only [strip, bin.injEq] at h
      exact ⟨l, r, sp2, by rw [h.1], h.2.1, h.2.2.1⟩) h

theorem strip_eq_member {n a b : Node} {sp : Span} (h : strip n = .member a b sp) : ∃ o p sp2, n = .member o p sp2 :=
  strip_cases (P := fun n => ∃ o p sp2, n = .member o p sp2) h (PULift.up fun o p sp2 => ⟨o, p, sp2, rfl⟩)

theorem strip_eq_array {n : Node} {es : List Node} {sp : Span} (h : strip n = .array es sp) : ∃ es2 sp2, n = .array es2 sp2 :=
  strip_cases (P := fun n => ∃ es2 sp2, n = .array es2 sp2) h (PULift.up fun es2 sp2 => ⟨es2, sp2, rfl⟩)

theorem strip_eq_other {n : Node} {k : String} {sp : Span} {ns : List String} {vs : List Node}
    (h : strip n = .other k sp ns vs) : ∃ sp2 vs2, n = .other k sp2 ns vs2 ∧ stripL vs2 = vs :=
  strip_cases (P := fun n => strip n = .other k sp ns vs → ∃ sp2 vs2, n = .other k sp2 ns vs2 ∧ stripL vs2 = vs) h
    (PULift.up fun k' sp2 ns' vs2 h => by
      simp only [strip, other.injEq] at h
      exact ⟨sp2, vs2, by rw [h.1, h.2.2.1], h.2.2.2⟩) h

theorem strip_eq_arg {n e : Node} {s : Option Span} (h : strip n = .arg s e) :
    ∃ s2 e2, n = .arg s2 e2 ∧ s2.isSome = s.isSome :=
  strip_cases (P := fun n => strip n = .arg s e → ∃ s2 e2, n = .arg s2 e2 ∧ s2.isSome = s.isSome) h
    (PULift.up fun s2 e2 h => by
      simp only [strip, arg.injEq] at h
      exact ⟨s2, e2, rfl, by rw [← h.1]; cases s2 <;> rfl⟩) h

theorem eqNS_of_strip {a b : Node} (h : strip a = strip b) : eqNS a b = true := by
  rw [← eqNS_strip_left, h, eqNS_strip_left, eqNS_refl]

end IastModel
