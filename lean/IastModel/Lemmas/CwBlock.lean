import IastModel.Lemmas.CertTr
import IastModel.Lemmas.LitBlock
/-
  C03 through the block visitor: `cw`, the number of hook sites that are not `RobustOK` (whose certificate of mirroring
  their operation does not survive a later rewriting of the blocks nested in their arguments), stays zero under the
  operation visitor (`visit_W`) and the block visitor (`blockVisit_W`).
-/
namespace IastModel
open Node

open Classical in
/-- the hook site does not mirror its operation under some later rewriting of its block statements -/
noncomputable def notRobust (cfg : Config) (h : Node) : Bool := decide (¬ RobustOK cfg h)

theorem notRobust_false {cfg : Config} {h : Node} (hr : RobustOK cfg h) : notRobust cfg h = false := by
  simp [notRobust, hr]

theorem robust_of_notRobust_false {cfg : Config} {h : Node} (hr : notRobust cfg h = false) : RobustOK cfg h := by
  simpa [notRobust] using hr

/-- the number of hook sites of a tree that are not `RobustOK` -/
noncomputable def cw (cfg : Config) (n : Node) : Nat := cq (notRobust cfg) n
noncomputable def cwL (cfg : Config) (l : List Node) : Nat := cqL (notRobust cfg) l

theorem certRes_robust {cfg : Config} {e' : Node} (h : CertRes cfg e') : notRobust cfg (lastOf e') = false := by
  obtain ⟨first, args, asg, name, sp, rfl, hc, hn⟩ := h
  rw [lastOf_ddParen]
  exact notRobust_false (robust_of_cert sp hc hn)

/-- the operation visitor adds no hook site that is not `RobustOK` (its certificate survives any later rewriting of
    the blocks nested in its arguments): the number of such sites does not change, and a source tree has none -/
theorem visit_W (cfg : Config) (ok : String → Bool) (hcfg : CfgOk ok cfg) :
    ∀ (f : Nat) (root : Bool) (n : Node) (s : St), ns n = 0 → targetsOk n = true → StOk s →
      cw cfg (visit cfg f root n s).1 = cw cfg n :=
  visit_cq_eq (notRobust cfg) cfg ok hcfg
    (fun l r sp s e' he => certRes_robust (toDdBinary_cert cfg l r sp s e' he))
    (fun op l r sp s e' he => by
      obtain ⟨target, e1, h1, hc⟩ := toDdAssign_cert cfg op l r sp s e' he
      rw [h1, siteOf_assign]; exact certRes_robust hc)
    (fun es qs sp s e' he => certRes_robust (toDdTpl_cert cfg es qs sp s e' he))
    (fun c as sp s e' tag he => certRes_robust (toDdCall_cert cfg c as sp s e' tag he))

theorem cw_eq' (cfg : Config) (n : Node) : cw cfg n = (if isBadHook (notRobust cfg) n then 1 else 0) + cwL cfg n.kids := cq_eq _ n

def ZZ (a b : Nat) : Prop := a = 0 → b = 0

theorem ZZ.refl (a : Nat) : ZZ a a := id
theorem ZZ.trans {a b c : Nat} (h1 : ZZ a b) (h2 : ZZ b c) : ZZ a c := fun h => h2 (h1 h)
theorem ZZ.add {a b c d : Nat} (h1 : ZZ a b) (h2 : ZZ c d) : ZZ (a + c) (b + d) := by
  intro h
  have ha : a = 0 := by omega
  have hc : c = 0 := by omega
  rw [h1 ha, h2 hc]
theorem ZZ.of_eq {a b : Nat} (h : b = a) : ZZ a b := fun h0 => by rw [h, h0]

theorem BR.exists_withKids {a b : Node} (h : BR a b) : ∃ ks, b = a.withKids ks := by
  cases h with
  | blk ss ss' sp => exact ⟨ss', rfl⟩
  | node n ks' _ _ _ => exact ⟨ks', rfl⟩

/-! `hookName?` looks at the constructor of a node, of its callee, and of the callee's object and property: other
    children do not matter at any of the four places. -/

theorem hookName?_withKids {n : Node} (h : ∀ c as sp, n ≠ .call c as sp) (ks : List Node) :
    hookName? (n.withKids ks) = hookName? n := by
  cases n <;> first | rfl | exact absurd rfl (h _ _ _)

theorem hookName?_callee_withKids {c : Node} (h : ∀ o p msp, c ≠ .member o p msp) (ks as as' : List Node) (sp : Span) :
    hookName? (.call (c.withKids ks) as' sp) = hookName? (.call c as sp) := by
  cases c <;> first | rfl | exact absurd rfl (h _ _ _)

theorem hookName?_obj_withKids {o : Node} (h : ∀ nm isp, o ≠ .ident nm isp) (ks as as' : List Node) (p p' : Node)
    (msp sp : Span) :
    hookName? (.call (.member (o.withKids ks) p' msp) as' sp) = hookName? (.call (.member o p msp) as sp) := by
  cases o <;> first | rfl | exact absurd rfl (h _ _)

theorem hookName?_prop_withKids (nm : Name) (isp : Span) (p : Node) (ks as as' : List Node) (msp sp : Span) :
    hookName? (.call (.member (.ident nm isp) (p.withKids ks) msp) as' sp) =
      hookName? (.call (.member (.ident nm isp) p msp) as sp) := by
  cases nm with
  | temp k => rfl
  | user x => cases p <;> rfl

/-- the block visitor keeps the property "is a hook call" of every node -/
theorem BR.hookName : ∀ {a b : Node}, BR a b → hookName? b = hookName? a := by
  intro a b h
  by_cases hcall : ∃ c as sp, a = .call c as sp
  case neg =>
    obtain ⟨ks, rfl⟩ := h.exists_withKids
    exact hookName?_withKids (fun c as sp e => hcall ⟨c, as, sp, e⟩) ks
  obtain ⟨c, as, sp, rfl⟩ := hcall
  obtain ⟨c', as', rfl, hc, _⟩ := h.call_inv
  by_cases hmem : ∃ o p msp, c = .member o p msp
  case neg =>
    obtain ⟨ks, rfl⟩ := hc.exists_withKids
    exact hookName?_callee_withKids (fun o p msp e => hmem ⟨o, p, msp, e⟩) ks as as' sp
  obtain ⟨o, p, msp, rfl⟩ := hmem
  obtain ⟨o', p', rfl, ho, hp⟩ := hc.member_inv
  by_cases hid : ∃ nm isp, o = .ident nm isp
  case neg =>
    obtain ⟨ks, rfl⟩ := ho.exists_withKids
    exact hookName?_obj_withKids (fun nm isp e => hid ⟨nm, isp, e⟩) ks as as' p p' msp sp
  obtain ⟨nm, isp, rfl⟩ := hid
  have := BR_noBlk _ (by simp) _ ho
  subst this
  obtain ⟨ks, rfl⟩ := hp.exists_withKids
  exact hookName?_prop_withKids nm isp p ks as as' msp sp

theorem BR.badHook {cfg : Config} {a b : Node} (h : BR a b) (h0 : isBadHook (notRobust cfg) a = false) :
    isBadHook (notRobust cfg) b = false := by
  simp only [isBadHook, isHook, h.hookName, Bool.and_eq_false_iff] at h0 ⊢
  rcases h0 with h0 | h0
  · exact Or.inl h0
  · exact Or.inr (notRobust_false ((robust_of_notRobust_false h0).BR h))

/-- the block visitor leaves no hook site that is not `RobustOK` (when the run is not cancelled): a node's own
    site stays robust while its nested blocks are entered because `RobustOK` survives `BR` -/
theorem blockVisit_W (ok) (cfg : Config) (hcfg : CfgOk ok cfg) (opFuel : Nat) : ∀ (f : Nat) (n : Node) (s : St),
    StOk s → goodW ok true n = true → StOk (blockVisit cfg opFuel f n s).2 →
      ZZ (cw cfg n) (cw cfg (blockVisit cfg opFuel f n s).1) :=
  blockVisit_rel' (R := fun _ _ a b => ZZ a b) (CRel.ofWeights ZZ.refl ZZ.trans ZZ.add) cfg ok hcfg
    (fun f root n s h0 ht hs => ZZ.of_eq (visit_W cfg ok hcfg f root n s h0 ht hs))
    (letDecl_cnt (fun _ _ _ _ _ => rfl) (fun _ => rfl) (fun _ => rfl) (fun _ _ => rfl)) (fun _ _ => rfl)
    (fun opFuel f n s a b hb _ _ _ h h0 => by
      have hbr := blockVisit_BR cfg opFuel (f + 1) n s
      rw [blockVisit_generic cfg opFuel f n hb] at hbr
      have hterm : isBadHook (notRobust cfg) n = false := by
        cases hp : isBadHook (notRobust cfg) n
        · rfl
        · rw [hp] at h0; exact absurd h0 (by simp)
      rw [hterm] at h0
      rw [hbr.badHook hterm, h (by simpa using h0)]; rfl)
    opFuel

end IastModel
