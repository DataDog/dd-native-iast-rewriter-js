import IastModel.Syntax
/-
  Structural facts about `Node`: `kids`/`withKids` round trips, the sub-term induction principle and
  tree-wide combinators (`all`, `count`, `collect`) used by the specifications.
-/
namespace IastModel
namespace Node

theorem withKids_kids (n : Node) : n.withKids n.kids = n := by
  cases n with
  | tpl es qs sp => simp only [withKids, kids, List.take_left', List.drop_left']
  | arrow ps b at' sp =>
    simp only [withKids, kids, List.take_left', List.getD_eq_getElem?_getD,
      List.getElem?_append_right (Nat.le_refl _), Nat.sub_self, List.getElem?_cons_zero, Option.getD_some]
  | _ => rfl

theorem kids_withKids (n : Node) (ks : List Node) (h : ks.length = n.kids.length) :
    (n.withKids ks).kids = ks := by
  cases n with
  | atom | lit | ident | pname => exact (List.eq_nil_of_length_eq_zero h).symm
  | arr | obj | other | seq | array | block => rfl
  | arg | optChain | unary | paren | exprStmt => rcases ks with _ | ⟨a, _ | _⟩ <;> first | rfl | cases h
  | bin | assign | member => rcases ks with _ | ⟨a, _ | ⟨b, _ | _⟩⟩ <;> first | rfl | cases h
  | cond | ifStmt => rcases ks with _ | ⟨a, _ | ⟨b, _ | ⟨c, _ | _⟩⟩⟩ <;> first | rfl | cases h
  | call | optCall => cases ks with | nil => cases h | cons => rfl
  | tpl es qs sp => exact List.take_append_drop _ _
  | arrow ps b at' sp =>
    have h : ks.length = ps.length + 1 := by
      simpa only [kids, List.length_append, List.length_cons, List.length_nil] using h
    show ks.take ps.length ++ [ks.getD ps.length b] = ks
    rw [List.getD_eq_getElem?_getD, List.getElem?_eq_getElem (by omega), Option.getD_some,
      ← List.take_succ_eq_append_getElem, List.take_of_length_le (by omega)]

theorem sizeOf_lt_of_mem_kids {n k : Node} (h : k ∈ n.kids) : sizeOf k < sizeOf n := by
  have mem {xs : List Node} (h : k ∈ xs) : sizeOf k < sizeOf xs := List.sizeOf_lt_of_mem h
  cases n <;> simp only [kids, List.mem_cons, List.mem_append, List.not_mem_nil, or_false] at h
  all_goals simp only [arr.sizeOf_spec, obj.sizeOf_spec, other.sizeOf_spec, bin.sizeOf_spec, assign.sizeOf_spec,
    tpl.sizeOf_spec, call.sizeOf_spec, arg.sizeOf_spec, member.sizeOf_spec, optChain.sizeOf_spec, optCall.sizeOf_spec,
    unary.sizeOf_spec, arrow.sizeOf_spec, paren.sizeOf_spec, seq.sizeOf_spec, cond.sizeOf_spec, array.sizeOf_spec,
    block.sizeOf_spec, ifStmt.sizeOf_spec, exprStmt.sizeOf_spec]
  case arr | obj | other | seq | array | block => have := mem h; omega
  case tpl => rcases h with h | h <;> have := mem h <;> omega
  case arrow =>
    rcases h with h | rfl
    · have := mem h; omega
    · omega
  case call | optCall =>
    rcases h with rfl | h
    · omega
    · have := mem h; omega
  case arg | optChain | unary | paren | exprStmt => subst h; omega
  case bin | assign | member => rcases h with rfl | rfl <;> omega
  case cond | ifStmt => rcases h with rfl | rfl | rfl <;> omega
/-- sub-term induction: a property that follows from its truth on all immediate children holds
    everywhere -/
theorem ind {P : Node → Prop} (step : ∀ n, (∀ k ∈ n.kids, P k) → P n) : ∀ n, P n := by
  have : ∀ m, ∀ n : Node, sizeOf n = m → P n := by
    intro m
    induction m using Nat.strongRecOn with
    | _ m ih =>
      intro n hn
      apply step
      intro k hk
      exact ih (sizeOf k) (by have := sizeOf_lt_of_mem_kids hk; omega) k rfl
  intro n; exact this _ n rfl

theorem attach_all_eq {α} (l : List α) (q : α → Bool) : (l.attach.all fun x => q x.1) = l.all q := by
  conv => rhs; rw [← List.attach_map_subtype_val l]
  rw [List.all_map]; rfl

theorem attach_map_eq {α β} (l : List α) (q : α → β) : (l.attach.map fun x => q x.1) = l.map q := by
  conv => rhs; rw [← List.attach_map_subtype_val l]
  rw [List.map_map]; rfl

def all (p : Node → Bool) (n : Node) : Bool :=
  p n && n.kids.attach.all fun x => all p x.1
termination_by sizeOf n
decreasing_by exact sizeOf_lt_of_mem_kids x.2

def count (p : Node → Bool) (n : Node) : Nat :=
  (if p n then 1 else 0) + (n.kids.attach.map fun x => count p x.1).sum
termination_by sizeOf n
decreasing_by exact sizeOf_lt_of_mem_kids x.2

def collect (p : Node → Bool) (n : Node) : List Node :=
  (if p n then [n] else []) ++ (n.kids.attach.map fun x => collect p x.1).flatten
termination_by sizeOf n
decreasing_by exact sizeOf_lt_of_mem_kids x.2

theorem all_eq (p : Node → Bool) (n : Node) : all p n = (p n && n.kids.all (all p)) := by
  rw [all, attach_all_eq]
theorem count_eq (p : Node → Bool) (n : Node) :
    count p n = (if p n then 1 else 0) + (n.kids.map (count p)).sum := by
  rw [count, attach_map_eq]
theorem collect_eq (p : Node → Bool) (n : Node) :
    collect p n = (if p n then [n] else []) ++ (n.kids.map (collect p)).flatten := by
  rw [collect, attach_map_eq]

theorem collect_sound (p : Node → Bool) : ∀ (n x : Node), x ∈ collect p n → p x = true := by
  apply ind
  intro n ih x hx
  rw [collect_eq] at hx
  simp only [List.mem_append, List.mem_flatten, List.mem_map] at hx
  rcases hx with hx | ⟨l, ⟨k, hk, rfl⟩, hx⟩
  · by_cases hp : p n = true
    · simp only [hp, if_true, List.mem_singleton] at hx
      subst hx; exact hp
    · simp [hp] at hx
  · exact ih k hk x hx

end Node
namespace Node

theorem name_beq_refl (n : Name) : (n == n) = true := by
  cases n with
  | user s => show (s == s) = true; simp
  | temp k => show (k == k) = true; simp

theorem eqNS_refl : ∀ n : Node, eqNS n n = true := by
  intro n
  induction n using Node.rec (motive_2 := fun l => eqNSL l l = true) with
  | nil => rfl
  | cons x xs hx hxs => simp only [eqNSL, hx, hxs, Bool.and_self]
  | _ => simp only [eqNS, *, name_beq_refl, beq_self_eq_true, Bool.and_self]

theorem eqNSL_refl (l : List Node) : eqNSL l l = true := by
  induction l with
  | nil => rfl
  | cons x xs ih => simp only [eqNSL, eqNS_refl x, ih, Bool.and_self]

theorem eqNSL_append {a b c d : List Node} (h1 : eqNSL a b = true) (h2 : eqNSL c d = true) :
    eqNSL (a ++ c) (b ++ d) = true := by
  induction a generalizing b with
  | nil => cases b with
    | nil => exact h2
    | cons => cases h1
  | cons x xs ih => cases b with
    | nil => cases h1
    | cons y ys =>
      simp only [eqNSL, Bool.and_eq_true] at h1
      simp only [List.cons_append, eqNSL, h1.1, ih h1.2, Bool.and_self]

/-- nodes equal up to positions have the same constructor and children equal up to positions.
    The catch-all equation of `eqNS` says that `eqNS a b` is false unless `a` and `b` are built by the same
    constructor; read backwards it leaves the 24 diagonal cases, without a case split on `a` and on `b`. -/
theorem eqNS_kids {a b : Node} (h : eqNS a b = true) :
    a.ctorIdx = b.ctorIdx ∧ eqNSL a.kids b.kids = true := by
  refine Decidable.byContradiction fun hne => ?_
  rw [eqNS.eq_25 a b] at h
  · cases h
  all_goals
    intros
    subst_vars
    refine hne ⟨rfl, ?_⟩
    simp only [eqNS, Bool.and_eq_true] at h
    simp only [kids, eqNSL, h, eqNSL_append, Bool.and_self]

/-- a property of nodes that equality up to positions transports member by member is transported
    along lists -/
theorem eqNSL_all {p : Node → Bool} : ∀ {xs ys : List Node}, eqNSL xs ys = true →
    (∀ x ∈ xs, ∀ y, eqNS x y = true → p x = true → p y = true) → xs.all p = true → ys.all p = true
  | [], [], _, _, _ => rfl
  | [], _ :: _, h, _, _ => by cases h
  | _ :: _, [], h, _, _ => by cases h
  | x :: xs, y :: ys, h, hp, hx => by
    simp only [eqNSL, Bool.and_eq_true] at h
    simp only [List.all_cons, Bool.and_eq_true] at hx ⊢
    exact ⟨hp x List.mem_cons_self y h.1 hx.1,
      eqNSL_all h.2 (fun x hm => hp x (List.mem_cons_of_mem _ hm)) hx.2⟩

end Node
end IastModel
